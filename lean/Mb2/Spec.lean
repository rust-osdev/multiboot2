/-
  Mb2.Spec — the specification layer: what the given properties demand, written as short functions from
  the INPUT to the set of admissible outcomes. Nothing here looks at the implementation model.
-/
import Mb2.Common
import Mb2.Mbi
import Mb2.Header
namespace Mb2

abbrev Out (ε α : Type) := Res (Ex ε α)

/-- A set of admissible outcomes. -/
inductive Expect (ε α : Type) where
  | exactly (o : Out ε α)       -- precisely this outcome
  | rejected                    -- a controlled panic or any error value; never a success, never a fault
  | rejectedOr (a : α)          -- as `rejected`, or the success `a`
  | anything                    -- unconstrained by the property (but still no memory fault)
deriving Inhabited

def Out.isRejection {ε α} : Out ε α → Bool
  | .panic => true
  | .ok (.error _) => true
  | _ => false

def Out.isFault {ε α} : Out ε α → Bool
  | .oob => true | .ub => true | _ => false

def Expect.admits {ε α} [DecidableEq ε] [DecidableEq α] (e : Expect ε α) (o : Out ε α) : Bool :=
  match e with
  | .exactly x => decide (o = x)
  | .rejected => o.isRejection
  | .rejectedOr a => o.isRejection || decide (o = .ok (.ok a))
  | .anything => !o.isFault

@[simp] theorem Expect.admits_exactly {ε α} [DecidableEq ε] [DecidableEq α] (o : Out ε α) :
    (Expect.exactly o).admits o = true := by simp [Expect.admits]

/-- specification and model written as decision sequences over the same conditions are compared branch by branch -/
theorem Expect.admits_ite {ε α} [DecidableEq ε] [DecidableEq α] (c : Prop) [Decidable c] (e₁ e₂ : Expect ε α)
    (o₁ o₂ : Out ε α) :
    (if c then e₁ else e₂).admits (if c then o₁ else o₂) = if c then e₁.admits o₁ else e₂.admits o₂ := by
  split <;> rfl

namespace Spec

/-! ### C14 — bytes → dynamically sized structure -/

/-- Property C14: error precedence; success only when everything fits; result = payload length. -/
def refFromSlice (k : HK) (addr : Nat) (bytes : Bytes) : Expect MemErr Nat :=
  let len := bytes.length
  if len < k.hsize then .exactly (.ok (.error .shorterThanHeader))
  else if addr % 8 ≠ 0 then .exactly (.ok (.error .wrongAlignment))
  else if len % 8 ≠ 0 then .exactly (.ok (.error .missingPadding))
  else
    let d := le32 bytes k.sizeOff
    if d > len then .exactly (.ok (.error .invalidReportedTotalSize))
    else if d < k.hsize then .rejectedOr 0
    else .exactly (.ok (.ok (d - k.hsize)))

/-! ### C02 — loading -/

/-- Property C02. `mem` is the readable memory behind the (8-aligned, when non-null) pointer. -/
def load (null : Bool) (mem : Bytes) : Expect LoadErr Loaded :=
  if null then .exactly (.ok (.error (.memory .null)))
  else
    let t := le32 mem 0
    if t < 8 then .exactly (.ok (.error (.memory .shorterThanHeader)))
    else if t % 8 ≠ 0 then .exactly (.ok (.error (.memory .missingPadding)))
    else if le32 mem (t - 8) = 0 ∧ le32 mem (t - 4) = 8 then .exactly (.ok (.ok ⟨0, t, t⟩))
    else .exactly (.ok (.error .noEndTag))

/-! ### C03 — the specification's tag walk -/

/-- The walk of the Multiboot2 specification over a tag area `buf` (boot information minus its 8-byte
    header / header minus its 16-byte header), starting at `off`: done at the end of the area; a size below
    8 or a tag that leaves the area is `bad`; otherwise the tag at `off` and on to `off + roundUp8 size`. -/
def walk (k : HK) (buf : Bytes) : Nat → Nat → List Item × End
  | 0, _ => ([], .bad)
  | fuel+1, off =>
    if off = buf.length then ([], .done)
    else
      let size := le32 buf (off + 4)
      if size < 8 ∨ off + roundUp8 size > buf.length then ([], .bad)
      else
        let r := walk k buf fuel (off + roundUp8 size)
        (⟨off, tagTyp k buf off, size, size - 8⟩ :: r.1, r.2)

def tagsOf (k : HK) (buf : Bytes) : List Item × End := walk k buf (buf.length / 8 + 1) 0

/-- The abstract iterator pool: an iterator is an index into the list of tags of the specification's walk. `next`
    yields the tag at that index and advances; past the last tag it reports the end (`none`, state unchanged) when
    the walk ended `done`, and a controlled panic otherwise. `clone` copies the index, `fresh` starts at 0. -/
def absStep (items : List Item) (e : End) (pool : List (Option Nat)) : IterOp → List (Option Nat) × IterObs
  | .fresh => (pool ++ [some 0], .fresh)
  | .clone i => (pool ++ [pool.getD i none], .cloned)
  | .next i =>
    match pool.getD i none with
    | none => (pool, .dead)
    | some j =>
      match items[j]? with
      | some it => (pool.set i (some (j + 1)), .item it)
      | none => if e = .done then (pool, .none) else (pool.set i none, .panic)

def absRun (items : List Item) (e : End) : List (Option Nat) → List IterOp → List IterObs
  | _, [] => []
  | pool, op :: ops => let r := absStep items e pool op; r.2 :: absRun items e r.1 ops


/-! ### C10 — header loading -/

/-- Property C10 (for a defined architecture value 0 / 4). -/
def hload (null : Bool) (mem : Bytes) : Expect HLoadErr HLoaded :=
  if null then .exactly (.ok (.error (.memory .null)))
  else
    let m := le32 mem 0
    let a := le32 mem 4
    let l := le32 mem 8
    let c := le32 mem 12
    if l < 16 then .exactly (.ok (.error (.memory .shorterThanHeader)))
    else if l % 8 ≠ 0 then .exactly (.ok (.error (.memory .missingPadding)))
    else if m ≠ HMAGIC then .exactly (.ok (.error .magicNotFound))
    else if a ≠ 0 ∧ a ≠ 4 then .anything
    else if (m + a + l + c) % 4294967296 ≠ 0 then .exactly (.ok (.error .checksumMismatch))
    else .exactly (.ok (.ok ⟨m, a, l, c⟩))

/-! ### C13 — searching an image for the header -/

def u8A (a : Array UInt8) (i : Nat) : Nat := (a.getD i 0).toNat
def le32A (a : Array UInt8) (o : Nat) : Nat :=
  u8A a o + 256 * u8A a (o+1) + 65536 * u8A a (o+2) + 16777216 * u8A a (o+3)

/-- least index `i` with `i + 4 ≤ w` whose four bytes are the magic -/
def firstMagic (buf : Bytes) (w : Nat) : Option Nat :=
  let a := buf.toArray
  (List.range' 0 (w - 3)).find? (fun i => le32A a i == HMAGIC)

/-- Property C13: exact result; which error kind is reported for misaligned / truncated is left open. -/
inductive FindExpect where
  | none_ | some_ (i len : Nat) | error
deriving Repr, DecidableEq, Inhabited

def find (buf : Bytes) : FindExpect :=
  let w := min buf.length 8192
  match firstMagic buf w with
  | none => .none_
  | some i =>
    if i % 8 ≠ 0 then .error
    else if i + 12 > buf.length then .error
    else if i + le32 buf (i + 8) > buf.length then .error
    else .some_ i (le32 buf (i + 8))


/-! ### C04 — field offsets of the Multiboot2 specification (§3.6.x), copied from the specification, NOT from the code -/

/-- (name, offset from tag start, width in bytes) per information-tag type number -/
def fields : Nat → List (String × Nat × Nat)
  | 10 => [("version", 8, 2), ("cseg", 10, 2), ("offset", 12, 4), ("cset_16", 16, 2), ("dseg", 18, 2), ("flags", 20, 2),
           ("cseg_len", 22, 2), ("cseg_16_len", 24, 2), ("dseg_len", 26, 2)]                     -- APM table
  | 4 => [("lower", 8, 4), ("upper", 12, 4)]                                                    -- basic memory information
  | 5 => [("biosdev", 8, 4), ("slice", 12, 4), ("part", 16, 4)]                                 -- BIOS boot device
  | 19 => [("handle", 8, 4)]                                                                    -- EFI 32-bit image handle
  | 20 => [("handle", 8, 8)]                                                                    -- EFI 64-bit image handle
  | 11 => [("sdt", 8, 4)]                                                                       -- EFI 32-bit system table
  | 12 => [("sdt", 8, 8)]                                                                       -- EFI 64-bit system table
  | 21 => [("addr", 8, 4)]                                                                      -- image load base address
  | 3 => [("start", 8, 4), ("end", 12, 4)]                                                      -- module
  | 6 => [("entry_size", 8, 4), ("entry_version", 12, 4)]                                       -- memory map
  | 9 => [("num", 8, 4), ("entsize", 12, 4), ("shndx", 16, 4)]                                  -- ELF symbols (multiboot2.h)
  | 8 => [("address", 8, 8), ("pitch", 16, 4), ("width", 20, 4), ("height", 24, 4), ("bpp", 28, 1)]   -- framebuffer
  | 13 => [("major", 8, 1), ("minor", 9, 1)]                                                    -- SMBIOS
  | 14 => [("revision", 23, 1), ("rsdt", 24, 4)]                                                -- ACPI 1.0 RSDP (8 + 15, 8 + 16)
  | 15 => [("revision", 23, 1), ("xsdt", 32, 8), ("ext_checksum", 40, 1)]                       -- ACPI 2.0 RSDP (8 + 24, 8 + 32)
  | 2 => [("typ", 0, 4), ("size", 4, 4)]                                                        -- boot loader name: the tag header
  | 7 => [("mode", 8, 2), ("iseg", 10, 2), ("ioff", 12, 2), ("ilen", 14, 2)]                    -- VBE info
  | _ => []

/-- VBE 3.0 VbeInfoBlock (512 bytes, at tag offset 16): offsets of signature[4], version, OemStringPtr, Capabilities,
    VideoModePtr, TotalMemory, OemSoftwareRev, OemVendorNamePtr, OemProductNamePtr, OemProductRevPtr -/
def vbeControl : List (Nat × Nat) :=
  [(16 + 0, 1), (16 + 1, 1), (16 + 2, 1), (16 + 3, 1), (16 + 4, 2), (16 + 6, 4), (16 + 10, 4), (16 + 14, 4), (16 + 18, 2),
   (16 + 20, 2), (16 + 22, 4), (16 + 26, 4), (16 + 30, 4)]

/-- VBE 3.0 ModeInfoBlock (256 bytes, at tag offset 528): ModeAttributes, WinAAttributes, WinBAttributes, WinGranularity,
    WinSize, WinASegment, WinBSegment, WinFuncPtr, BytesPerScanLine, XResolution, YResolution, XCharSize, YCharSize,
    NumberOfPlanes, BitsPerPixel, NumberOfBanks, MemoryModel, BankSize, NumberOfImagePages, (reserved @30), Red/Green/Blue/Rsvd
    MaskSize+FieldPosition @31..38, DirectColorModeInfo @39, PhysBasePtr @40, OffScreenMemOffset @44, OffScreenMemSize @48 -/
def vbeMode : List (Nat × Nat) :=
  [(528 + 0, 2), (528 + 2, 1), (528 + 3, 1), (528 + 4, 2), (528 + 6, 2), (528 + 8, 2), (528 + 10, 2), (528 + 12, 4),
   (528 + 16, 2), (528 + 18, 2), (528 + 20, 2), (528 + 22, 1), (528 + 23, 1), (528 + 24, 1), (528 + 25, 1), (528 + 26, 1),
   (528 + 27, 1), (528 + 28, 1), (528 + 29, 1), (528 + 31, 1), (528 + 32, 1), (528 + 33, 1), (528 + 34, 1), (528 + 35, 1),
   (528 + 36, 1), (528 + 37, 1), (528 + 38, 1), (528 + 39, 1), (528 + 40, 4), (528 + 44, 4), (528 + 48, 2)]

/-- unpadded size of the fixed-size information tags -/
def fixedSize : Nat → Option Nat
  | 0 => some 8 | 4 => some 16 | 5 => some 20 | 7 => some 784 | 10 => some 28 | 11 => some 12 | 12 => some 16
  | 14 => some 28 | 15 => some 44 | 18 => some 8 | 19 => some 12 | 20 => some 16 | 21 => some 12
  | _ => none

end Spec
end Mb2
