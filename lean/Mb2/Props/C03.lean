/-
  C03 — Tag iteration reproduces the specification's tag walk, zero-copy.
-/
import Mb2.Spec
import Mb2.Lemmas.Iter
import Mb2.Tags
import Mb2.Lemmas.View
-- registered under C03 in `Props/INDEX.json`: the check audits them through this module; nothing below uses them
import Mb2.Props.FnsTblFixed
import Mb2.Props.FnsTblMbi
import Mb2.Props.FnsTblTags
import Mb2.Props.FnsDstMbi
import Mb2.Props.FnsLinked
import Mb2.Props.FnsCast
import Mb2.Props.FnsGetters
import Mb2.Props.FnsIter
import Mb2.Props.FnsAlign
import Mb2.Props.FnsTagHdr
namespace Mb2.C03
open Mb2

/-- the three tag-header kinds an iterator exists for -/
def IterKind (k : HK) : Prop := k = .tag ∨ k = .ht ∨ k = .dummy

theorem IterKind.tag : IterKind .tag := .inl rfl
theorem IterKind.ht : IterKind .ht := .inr (.inl rfl)

/-- One step: on an 8-aligned position inside a buffer that is a multiple of 8 long, the line-by-line model of
    `TagIter::next` is exactly one step of the specification's walk, in both build profiles: end of buffer → `None`;
    size below 8 or a tag leaving the buffer → controlled panic; otherwise the tag at that very offset with the stored
    type and size, `size − 8` payload bytes, and the next position `off + roundUp8 size`. -/
theorem next_is_walk_step (p : Profile) (k : HK) (hk : IterKind k) (buf : Bytes) (off : Nat)
    (hb : buf.length % 8 = 0) (hlen : buf.length < 2^62) (ho : off % 8 = 0) (hle : off ≤ buf.length) :
    tagIterNext p k buf off =
      if off = buf.length then .ok none
      else
        let size := le32 buf (off+4)
        if size < 8 ∨ off + roundUp8 size > buf.length then .panic
        else .ok (some (⟨off, tagTyp k buf off, size, size - 8⟩, off + roundUp8 size)) :=
  tagIterNext_eq p k hk buf off hb hlen ho hle

/-- Draining the model iterator from any aligned position equals the specification's walk from there. -/
theorem drain_eq_walk (p : Profile) (k : HK) (hk : IterKind k) (buf : Bytes)
    (hb : buf.length % 8 = 0) (hlen : buf.length < 2^62) :
    ∀ fuel off, off % 8 = 0 → off ≤ buf.length → drain p k buf fuel off = Spec.walk k buf fuel off := by
  intro fuel off ho hle
  fun_induction Spec.walk k buf fuel off with
  | case1 => rfl
  | case2 fuel => rw [drain, tagIterNext_eq p k hk buf _ hb hlen ho hle, if_pos rfl]
  | case3 fuel off h1 size hc =>
    rw [drain, tagIterNext_eq p k hk buf off hb hlen ho hle, if_neg h1]; simp only [size, if_pos hc]
  | case4 fuel off h1 size hc r ih =>
    have m := roundUp8_mod size
    rw [drain, tagIterNext_eq p k hk buf off hb hlen ho hle, if_neg h1]
    simp only [size, if_neg hc, ih (by omega) (by omega)]; rfl

/-- C03 (1): the tags the iterator yields are exactly the tags of the specification's walk, with the same ending
    (`done` = clean end, `bad` = controlled panic); never a fault. -/
theorem tags_eq_spec (p : Profile) (k : HK) (hk : IterKind k) (buf : Bytes)
    (hb : buf.length % 8 = 0) (hlen : buf.length < 2^62) :
    tagsOf p k buf = Spec.tagsOf k buf :=
  drain_eq_walk p k hk buf hb hlen _ 0 (by omega) (by omega)

/-- C03 (3) termination: the walk needs at most `(len − off)/8 + 1` steps; more fuel never changes the result,
    so the `fuel = 0` branch of the definitions is unreachable from `tagsOf`. -/
theorem walk_fuel_irrelevant (k : HK) (buf : Bytes) :
    ∀ fuel fuel' off, off ≤ buf.length → fuel ≥ (buf.length - off) / 8 + 1 → fuel' ≥ (buf.length - off) / 8 + 1 →
      Spec.walk k buf fuel off = Spec.walk k buf fuel' off := by
  intro fuel
  induction fuel with
  | zero => omega
  | succ n ih =>
    intro fuel' off hle h1 h2
    obtain ⟨m, rfl⟩ : ∃ m, fuel' = m + 1 := ⟨fuel' - 1, by omega⟩
    have g := roundUp8_ge (le32 buf (off+4))
    -- the same decision sequence on both sides; they differ in the fuel of the walk that follows a good tag
    rw [Spec.walk, Spec.walk]
    exact ite_congr rfl (fun _ => rfl) fun e => ite_congr rfl (fun _ => rfl) fun hc => by
      rw [ih m _ (by omega) (by omega) (by omega)]

theorem walk_end (k : HK) (buf : Bytes) (fuel off : Nat) :
    (Spec.walk k buf fuel off).2 = .done ∨ (Spec.walk k buf fuel off).2 = .bad := by
  fun_induction Spec.walk k buf fuel off with
  | case1 | case3 => exact .inr rfl
  | case2 => exact .inl rfl
  | case4 _ _ _ _ _ _ ih => exact ih

/-- the number of yielded tags is bounded by the buffer length / 8 -/
theorem walk_length_le (k : HK) (buf : Bytes) (fuel off : Nat) (hle : off ≤ buf.length) :
    (Spec.walk k buf fuel off).1.length ≤ (buf.length - off) / 8 := by
  fun_induction Spec.walk k buf fuel off with
  | case1 | case2 | case3 => exact Nat.zero_le _
  | case4 fuel off hne size hc r ih =>
    have g := roundUp8_ge size
    have : r.1.length ≤ _ := ih (by omega)
    show r.1.length + 1 ≤ _
    omega

/-- C03 (2): every yielded tag lies inside the buffer: `[off, off + roundUp8 size)`, 8-aligned, payload `size − 8`. -/
theorem walk_items_inside (k : HK) (buf : Bytes) (fuel off : Nat) (ho : off % 8 = 0) :
    ∀ it ∈ (Spec.walk k buf fuel off).1,
      it.off % 8 = 0 ∧ off ≤ it.off ∧ 8 ≤ it.size ∧ it.off + roundUp8 it.size ≤ buf.length ∧ it.pl = it.size - 8 ∧
      it.size = le32 buf (it.off + 4) ∧ it.typ = tagTyp k buf it.off := by
  fun_induction Spec.walk k buf fuel off with
  | case1 | case2 | case3 => intro it h; cases h
  | case4 fuel off hne size hc r ih =>
    have m := roundUp8_mod size
    intro it h
    rcases List.mem_cons.mp h with rfl | h
    · exact ⟨ho, Nat.le_refl _, by simp only; omega, by simp only; omega, rfl, rfl, rfl⟩
    · obtain ⟨haligned, hfrom, hrest⟩ := ih (by omega) it h
      exact ⟨haligned, by omega, hrest⟩

section
variable (p : Profile) {k : HK} (hk : IterKind k) {buf : Bytes} (hb : buf.length % 8 = 0) (hlen : buf.length < 2^62)
include hk hb hlen

theorem tagsOf_end : (tagsOf p k buf).2 = .done ∨ (tagsOf p k buf).2 = .bad :=
  tags_eq_spec p k hk buf hb hlen ▸ walk_end k buf _ _

/-- termination: the tag walk yields at most `len/8` tags -/
theorem tagsOf_length_le : (tagsOf p k buf).1.length ≤ buf.length / 8 :=
  tags_eq_spec p k hk buf hb hlen ▸ walk_length_le k buf _ 0 (Nat.zero_le _)

end

/-! ### histories: arbitrary interleavings of next / clone / fresh on a pool of iterators -/

/-- concrete iterator at offset `off` corresponds to abstract index `j`: the spec walk from `off` is the suffix -/
def Rel (k : HK) (buf : Bytes) (items : List Item) (e : End) : Option Nat → Option Nat → Prop
  | none, none => True
  | some off, some j => off % 8 = 0 ∧ off ≤ buf.length ∧
      ∃ fuel, fuel ≥ (buf.length - off) / 8 + 1 ∧ Spec.walk k buf fuel off = (items.drop j, e)
  | _, _ => False

def PoolRel (k : HK) (buf : Bytes) (items : List Item) (e : End) (cp ap : List (Option Nat)) : Prop :=
  cp.length = ap.length ∧ ∀ i, Rel k buf items e (cp.getD i none) (ap.getD i none)

theorem poolRel_append {k buf items e cp ap} (h : PoolRel k buf items e cp ap) (a b : Option Nat)
    (hr : Rel k buf items e a b) : PoolRel k buf items e (cp ++ [a]) (ap ++ [b]) := by
  refine ⟨by simp [h.1], fun i => ?_⟩
  have := h.2 i
  simp only [List.getD_eq_getElem?_getD, List.getElem?_append, List.getElem?_singleton, h.1] at this ⊢
  by_cases h1 : i < ap.length
  · simpa only [if_pos h1] using this
  · by_cases h2 : i - ap.length = 0
    · simpa only [if_neg h1, if_pos h2, Option.getD_some] using hr
    · simp only [if_neg h1, if_neg h2]; exact trivial

theorem poolRel_set {k buf items e cp ap} (h : PoolRel k buf items e cp ap) (i : Nat) (a b : Option Nat)
    (hr : Rel k buf items e a b) : PoolRel k buf items e (cp.set i a) (ap.set i b) := by
  refine ⟨by simp [h.1], fun j => ?_⟩
  have := h.2 j
  simp only [List.getD_eq_getElem?_getD, List.getElem?_set, h.1] at this ⊢
  by_cases h1 : i = j
  · by_cases h2 : i < ap.length
    · simpa only [if_pos h1, if_pos h2, Option.getD_some] using hr
    · simp only [if_pos h1, if_neg h2]; exact trivial
  · simpa only [if_neg h1] using this

/-- `next` on a related pair, in the terms `Spec.absStep` decides by: the walk from `off` is `items.drop j`, so its first
    step yields `items[j]?` and leads to a related pair, or there is no such item and the walk's ending is reported -/
theorem rel_next (p : Profile) {k : HK} (hk : IterKind k) {buf : Bytes} (hb : buf.length % 8 = 0) (hlen : buf.length < 2^62)
    {items e off j} (hr : Rel k buf items e (some off) (some j)) :
    match items[j]? with
    | some it => ∃ off', tagIterNext p k buf off = .ok (some (it, off')) ∧ Rel k buf items e (some off') (some (j + 1))
    | none => tagIterNext p k buf off = if e = .done then .ok none else .panic := by
  obtain ⟨ho, hle, fuel, hf, hw⟩ := hr
  obtain ⟨n, rfl⟩ : ∃ n, fuel = n + 1 := ⟨fuel - 1, by omega⟩
  have g := roundUp8_ge (le32 buf (off+4))
  have m := roundUp8_mod (le32 buf (off+4))
  rw [Spec.walk] at hw
  -- `items[j]?` is `(items.drop j).head?`, and in each case `hitems` says what `items.drop j` is: the items of the walk
  rw [tagIterNext_eq p k hk buf off hb hlen ho hle, ← List.head?_drop]
  clear hb hlen -- not needed below, and `omega` is cheaper without them
  by_cases h1 : off = buf.length
  · rw [if_pos h1] at hw ⊢; obtain ⟨hitems, rfl⟩ := Prod.mk.inj hw; rw [← hitems]; rfl
  by_cases hc : le32 buf (off + 4) < 8 ∨ off + roundUp8 (le32 buf (off + 4)) > buf.length
  · rw [if_neg h1, if_pos hc] at hw ⊢; obtain ⟨hitems, rfl⟩ := Prod.mk.inj hw; rw [← hitems]; rfl
  · rw [if_neg h1, if_neg hc] at hw ⊢; obtain ⟨hitems, rfl⟩ := Prod.mk.inj hw; rw [← hitems]
    exact ⟨_, rfl, by omega, by omega, n, by omega, by rw [← List.tail_drop, ← hitems]; rfl⟩

theorem step_refines (p : Profile) (k : HK) (hk : IterKind k) (buf : Bytes)
    (hb : buf.length % 8 = 0) (hlen : buf.length < 2^62) (items : List Item) (e : End)
    (h0 : Rel k buf items e (some 0) (some 0))
    (cp ap : List (Option Nat)) (h : PoolRel k buf items e cp ap) (op : IterOp) :
    (poolStep p k buf cp op).2 = (Spec.absStep items e ap op).2 ∧
    PoolRel k buf items e (poolStep p k buf cp op).1 (Spec.absStep items e ap op).1 := by
  cases op with
  | fresh => exact ⟨rfl, poolRel_append h _ _ h0⟩
  | clone i => exact ⟨rfl, poolRel_append h _ _ (h.2 i)⟩
  | next i =>
    have hr := h.2 i
    simp only [poolStep, Spec.absStep]
    cases hc : cp.getD i none <;> cases ha : ap.getD i none <;> rw [hc, ha] at hr
    · exact ⟨rfl, h⟩
    · exact hr.elim
    · exact hr.elim
    · rename_i off j
      have hn := rel_next p hk hb hlen hr
      simp only
      cases hj : items[j]? <;> rw [hj] at hn
      · rw [hn]
        by_cases he : e = .done
        · rw [if_pos he, if_pos he]; exact ⟨rfl, h⟩
        · rw [if_neg he, if_neg he]; exact ⟨rfl, poolRel_set h i none none trivial⟩
      · obtain ⟨off', hn, hr'⟩ := hn
        rw [hn]; exact ⟨rfl, poolRel_set h i _ _ hr'⟩

theorem run_refines (p : Profile) (k : HK) (hk : IterKind k) (buf : Bytes)
    (hb : buf.length % 8 = 0) (hlen : buf.length < 2^62) (items : List Item) (e : End)
    (h0 : Rel k buf items e (some 0) (some 0)) (ops : List IterOp) :
    ∀ cp ap, PoolRel k buf items e cp ap → poolRun p k buf cp ops = Spec.absRun items e ap ops := by
  induction ops with
  | nil => intros; rfl
  | cons op ops ih =>
    intro cp ap hp
    have hs := step_refines p k hk buf hb hlen items e h0 cp ap hp op
    simp only [poolRun, Spec.absRun]
    rw [hs.1, ih _ _ hs.2]

/-- C03 (4), history invariant: for EVERY sequence of `next` / `clone` / fresh-iterator operations on a pool of
    iterators over one tag area, what the model of the code observes equals what the abstract pool over the
    specification's walk observes: each iterator is at an index of the walk and yields the walk's suffix; a clone
    continues from the same index; after the end is reported every further `next` reports it again (the abstract
    state is unchanged by `none`); a walk that ends `bad` gives a controlled panic; no operation faults. -/
theorem history_refines (p : Profile) (k : HK) (hk : IterKind k) (buf : Bytes)
    (hb : buf.length % 8 = 0) (hlen : buf.length < 2^62) (ops : List IterOp) :
    poolRun p k buf [some 0] ops = Spec.absRun (Spec.tagsOf k buf).1 (Spec.tagsOf k buf).2 [some 0] ops := by
  have h0 : Rel k buf (Spec.tagsOf k buf).1 (Spec.tagsOf k buf).2 (some 0) (some 0) :=
    ⟨by omega, by omega, buf.length / 8 + 1, by omega, rfl⟩
  exact run_refines p k hk buf hb hlen _ _ h0 ops _ _
    (poolRel_append (cp := []) (ap := []) ⟨rfl, fun _ => trivial⟩ _ _ h0)

/-- an iterator of the abstract pool that stands behind the last item of a walk that ended `done` stays there: `next`
    reports `none` and leaves the pool as it is -/
theorem abs_exhausted_stays (items : List Item) (pool : List (Option Nat)) (i j : Nat)
    (h : pool.getD i none = some j) (hj : items.length ≤ j) :
    Spec.absStep items .done pool (.next i) = (pool, .none) := by
  simp only [Spec.absStep, h, List.getElem?_eq_none hj, if_true]

/-- the view the module iterator hands out for a module tag of the walk -/
def modView (it : Item) : View := ⟨it.off, it.size, roundUp8 it.size, it.size - 16⟩

/-- the module iterator of `multiboot2` is `find` over the tag iterator: on the abstract side, the sub-sequence of the
    walk with type 3. Stated here on lists: over a list of walk items the iterator yields exactly the module-typed items, in
    order, each as its typed view, as long as every module tag is at least the 16-byte fixed part long -/
theorem modules_go (p : Profile) (w : List Item × End) (items : List Item)
    (hit : ∀ it ∈ items, 8 ≤ it.size ∧ it.pl = it.size - 8) (hsz : ∀ it ∈ items, it.typ = 3 → 16 ≤ it.size) :
    moduleViews.go p w items = ((items.filter (fun it => it.typ = 3)).map modView, w.2) := by
  induction items with
  | nil => simp [moduleViews.go]
  | cons it rest ih =>
    have ih' := ih (fun x hx => hit x (by simp [hx])) (fun x hx => hsz x (by simp [hx]))
    unfold moduleViews.go
    by_cases ht : it.typ = 3
    · have h16 := hsz it (by simp) ht
      obtain ⟨h8, hpl⟩ := hit it (by simp)
      have hc : castTo p .tag (Kind.desc .module) it.size it.pl = .ok (roundUp8 it.size, it.size - 16) := by
        rw [hpl]
        exact (castTo_dstDesc p .tag rfl (base := 16) (e := 1) it.size (hs := h8) (hb8 := by omega)).trans
          (by rw [if_neg (by omega), Nat.div_one])
      rw [hc, ih']
      simp [ht, modView]
    · rw [ih']
      simp [ht]

/-- C03 (5): the module iterator yields exactly the module tags (type 3) of the specification's walk, in walk order, each
    located at the walk's offset with the stored size, and ends the way the walk ends (clean end or controlled panic).
    (A module tag shorter than its 16-byte fixed part is a controlled panic of the cast - see `castTo_dstDesc`.) -/
theorem modules_eq_filter (p : Profile) (area : Bytes) (hb : area.length % 8 = 0) (hlen : area.length < 2^62)
    (hsz : ∀ it ∈ (Spec.tagsOf .tag area).1, it.typ = 3 → 16 ≤ it.size) :
    moduleViews p area =
      (((Spec.tagsOf .tag area).1.filter (fun it => it.typ = 3)).map modView, (Spec.tagsOf .tag area).2) := by
  unfold moduleViews
  rw [tags_eq_spec p .tag IterKind.tag area hb hlen]
  apply modules_go p _ _ _ hsz
  intro it h
  obtain ⟨-, -, hsize8, -, hpl, -⟩ := walk_items_inside .tag area _ 0 (by omega) it h
  exact ⟨hsize8, hpl⟩

/-! Non-vacuity -/
example : tagsOf .dev .tag [1,0,0,0, 8,0,0,0,  0,0,0,0, 8,0,0,0] = ([⟨0,1,8,0⟩, ⟨8,0,8,0⟩], .done) := by decide
example : tagsOf .release .ht [1,0,0,0, 4,0,0,0,  0,0,0,0, 8,0,0,0] = ([], .bad) := by decide
example : tagsOf .dev .tag [1,0,0,0, 12,0,0,0, 9,9,9,9, 0,0,0,0] = ([⟨0,1,12,4⟩], .done) := by decide
example : poolRun .dev .tag [1,0,0,0, 8,0,0,0] [some 0] [.next 0, .clone 0, .next 0, .next 1, .fresh, .next 2]
    = [.item ⟨0,1,8,0⟩, .cloned, .none, .none, .fresh, .item ⟨0,1,8,0⟩] := by decide
example : moduleViews .dev ([3,0,0,0, 17,0,0,0, 1,0,0,0, 2,0,0,0, 0,0,0,0, 0,0,0,0,  0,0,0,0, 8,0,0,0]) =
    ([⟨0, 17, 24, 1⟩], .done) := by decide

end Mb2.C03
