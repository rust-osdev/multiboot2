/-
  C10 — Header loading accepts exactly magic- and checksum-valid headers.
-/
import Mb2.Props.FnsLinked
import Mb2.Spec
import Mb2.Lemmas.Common
-- registered under C10 in `Props/INDEX.json`: the check audits them through this module; nothing below uses them
import Mb2.Props.FnsTblHdr
import Mb2.Props.FnsGetters
import Mb2.Props.FnsBytesRef
import Mb2.Props.FnsHdrLoad
import Mb2.Props.FnsHbHdr
namespace Mb2.C10
open Mb2

/-- the checksum the library computes satisfies `magic + arch + length + checksum ≡ 0 (mod 2^32)`,
    for ALL magic, architecture and length words -/
theorem checksum_law (m a l : Nat) (hm : m < 4294967296) (ha : a < 4294967296) (hl : l < 4294967296) :
    (calcChecksum m a l + m + a + l) % 4294967296 = 0 ∧ calcChecksum m a l < 4294967296 := by
  unfold calcChecksum wsub32
  simp only [W32_eq]
  omega

/-- … and it is the only 32-bit word that does -/
theorem checksum_unique (m a l c : Nat) (hm : m < 4294967296) (ha : a < 4294967296) (hl : l < 4294967296)
    (hc : c < 4294967296) :
    (m + a + l + c) % 4294967296 = 0 ↔ calcChecksum m a l = c := by
  unfold calcChecksum wsub32
  simp only [W32_eq]
  omega

/-- Closed form of the modelled `Multiboot2Header::load` behind a non-null aligned pointer with the declared length
    (and at least the 16 header bytes) readable; identical in both profiles. -/
theorem hload_eq (p : Profile) (mem : Bytes)
    (hmem : mem.length ≥ 16 ∧ mem.length ≥ le32 mem 8) :
    hload p false mem =
      let m := le32 mem 0
      let a := le32 mem 4
      let l := le32 mem 8
      let c := le32 mem 12
      if l < 16 then .ok (.error (.memory .shorterThanHeader))
      else if l % 8 ≠ 0 then .ok (.error (.memory .missingPadding))
      else if m ≠ HMAGIC then .ok (.error .magicNotFound)
      else if a ≠ 0 ∧ a ≠ 4 then .ub
      else if calcChecksum m a l ≠ c then .ok (.error .checksumMismatch)
      else .ok (.ok ⟨m, a, l, c⟩) := by
  obtain ⟨h16, hdecl⟩ := hmem
  have rd : ∀ o, o + 4 ≤ le32 mem 8 → rd32 (mem.take (le32 mem 8)) o = .ok (le32 mem o) :=
    fun o h => rd32_take mem _ o h hdecl
  simp only [hload, Bool.false_eq_true, if_false, Res.ite_bind,
    refFromPtr_struct p (.inr rfl) mem (d := le32 mem 8) (n := 16) (hd := rfl) (hn := rfl) (hh := h16) (hle := hdecl)]
  -- the two rejections of `ref_from_ptr` pass through unchanged
  refine ite_congr rfl (fun _ => rfl) fun c1 => ite_congr rfl (fun _ => rfl) fun c2 => ?_
  simp only [Res.bind_ok, Res.pure_eq, rd 0 (by omega), rd 4 (by omega), rd 8 (by omega), rd 12 (by omega)]

/-- the model's `ub` branch is guarded by `a ≠ 0 ∧ a ≠ 4` -/
theorem arch_defined {a : Nat} (harch : a = 0 ∨ a = 4) : ¬ (a ≠ 0 ∧ a ≠ 4) := by omega

/-- for a defined architecture word the model's `hload` IS the closed form that the linked source term is proved equal to
    (`Fns.hdr_load_linked_eq`) -/
theorem hload_eq_closed (p : Profile) (mem : Bytes) (hmem : mem.length ≥ 16 ∧ mem.length ≥ le32 mem 8)
    (harch : le32 mem 4 = 0 ∨ le32 mem 4 = 4) :
    hload p false mem = Fns.hloadClosed (le32 mem 0) (le32 mem 4) (le32 mem 8) (le32 mem 12) := by
  simp only [hload_eq p mem hmem, Fns.hloadClosed, if_neg (arch_defined harch)]

theorem hloadClosed_ok (m a l c : Nat) : ∃ r, Fns.hloadClosed m a l c = .ok r :=
  ⟨_, by simp only [Fns.hloadClosed, ← apply_ite Res.ok]; rfl⟩

theorem hload_eq_ok_iff (p : Profile) (mem : Bytes) (hmem : mem.length ≥ 16 ∧ mem.length ≥ le32 mem 8) (hl : HLoaded) :
    hload p false mem = .ok (.ok hl) ↔
      hl = ⟨le32 mem 0, le32 mem 4, le32 mem 8, le32 mem 12⟩ ∧
      (16 ≤ le32 mem 8 ∧ le32 mem 8 % 8 = 0 ∧ le32 mem 0 = HMAGIC ∧ (le32 mem 4 = 0 ∨ le32 mem 4 = 4) ∧
        calcChecksum (le32 mem 0) (le32 mem 4) (le32 mem 8) = le32 mem 12) := by
  -- every rejecting branch of the closed form differs from a success: what is left is the negation of its condition
  rw [hload_eq p mem hmem]
  simp only [ite_eq_iff_of_ne, ne_eq, Res.ok.injEq, Ex.ok.injEq, reduceCtorEq, not_false_eq_true]
  exact ⟨fun ⟨c1, c2, c3, c4, c5, e⟩ => ⟨e.symm, by omega⟩,
    fun ⟨e, h⟩ => ⟨by omega, by omega, by omega, by omega, by omega, e.symm⟩⟩

/-- C10, load part: for a defined architecture word the modelled load returns exactly what the specification
    prescribes (null, too short, missing padding, wrong magic, checksum mismatch - in that precedence - or success),
    never panics, never reads outside the declared length. -/
theorem hload_meets_spec (p : Profile) (null : Bool) (mem : Bytes)
    (hmem : null = false → mem.length ≥ 16 ∧ mem.length ≥ le32 mem 8)
    (harch : null = false → le32 mem 4 = 0 ∨ le32 mem 4 = 4) :
    (Spec.hload null mem).admits (hload p null mem) = true := by
  cases null
  · -- under `harch` the `ub` / `anything` branch is dead; `checksum_unique` turns the specification's checksum condition
    -- into the code's, after which the two decision sequences run in parallel
    simp only [hload_eq p mem (hmem rfl), Spec.hload, Bool.false_eq_true, if_false, if_neg (arch_defined (harch rfl)),
      checksum_unique _ _ _ _ (le32_lt mem 0) (le32_lt mem 4) (le32_lt mem 8) (le32_lt mem 12),
      ne_eq, Expect.admits_ite, Expect.admits_exactly, ite_self]
  · exact Expect.admits_exactly _

theorem hload_profile_independent (null : Bool) (mem : Bytes)
    (hmem : null = false → mem.length ≥ 16 ∧ mem.length ≥ le32 mem 8) :
    hload .dev null mem = hload .release null mem := by
  cases null
  · rw [hload_eq .dev mem (hmem rfl), hload_eq .release mem (hmem rfl)]
  · rfl

/-! Non-vacuity -/
example : calcChecksum 0xE85250D6 0 16 = 0x17ADAF1A := by decide
example : calcChecksum 0xFFFFFFFF 0 2 = 0xFFFFFFFF := by decide
example : hload .dev false ([0xd6,0x50,0x52,0xe8, 0,0,0,0, 16,0,0,0, 0x1a,0xaf,0xad,0x17]) =
    .ok (.ok ⟨0xE85250D6, 0, 16, 0x17ADAF1A⟩) := by decide

end Mb2.C10
