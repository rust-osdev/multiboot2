/-
  SOURCE = MODEL for `FramebufferTypeId::try_from(u8)` (multiboot2/src/framebuffer.rs).
-/

import Mb2.Props.FnsBase
open Mb2 Mb2.Rir

namespace Mb2.Fns

/-- `FramebufferTypeId::try_from(u8)` = `fbTypeOfByte` -/
theorem fb_type_try_from_eq (p : Profile) (b : Nat) :
    evalO p [.int .u8 b] Gen.Fns.fb_type_try_from =
      some (.ok (match fbTypeOfByte b with
                 | some 0 => .c1 "Ok" (.c0 "FramebufferTypeId::Indexed")
                 | some 1 => .c1 "Ok" (.c0 "FramebufferTypeId::RGB")
                 | some _ => .c1 "Ok" (.c0 "FramebufferTypeId::Text")
                 | none => .c1 "Err" (.c1 "UnknownFramebufferType" (.int .u8 b)))) := by
  simp only [Gen.Fns.fb_type_try_from, rir, fbTypeOfByte]
  -- no encoder to push through the `if`s (cf. `elf_section_type_eq`), the statement has an anonymous `match`: split the `if`s
  repeat (split; rfl)
  rfl

end Mb2.Fns
