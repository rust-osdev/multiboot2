/-
  C08 — Results do not depend on build profile or optional features.

  The model carries a `Profile` parameter at every unchecked arithmetic site of the code. The theorems below show that
  on every parsing path the parameter is irrelevant: each site either cannot overflow under the checks that precede it
  or ends in `panic` in both profiles. Optional features do not occur in the model: no `cfg(feature)` lies on a
  parsing path (observed: the same case file is run through four builds and compared).

  PARTIAL: inputs that put an undeclared value into an enum-typed field of `multiboot2-header` are undefined behaviour
  (known finding F20); the model answers `ub` there and the full statement "no `ub` for any input" is FALSE:
  `full_statement_fails` exhibits the witness.
-/
import Mb2.Props.FnsLinked
import Mb2.HTags
import Mb2.Props.C02
import Mb2.Props.C03
import Mb2.Props.C10
-- registered under C08 in `Props/INDEX.json`: the check audits them through this module; nothing below uses them
import Mb2.Props.FnsMisc
import Mb2.Props.FnsCast
import Mb2.Props.FnsFb
import Mb2.Props.FnsElfIter
import Mb2.Props.FnsTagHdr
import Mb2.Props.FnsHtHdr
import Mb2.Props.FnsBiHdr
import Mb2.Props.FnsHbHdr
import Mb2.Props.FnsIter
namespace Mb2.C08
open Mb2

/-- header kinds whose `payload_len` is checked (assert / saturating) -/
def CheckedKind (k : HK) : Prop := k = .tag ∨ k = .bi ∨ k = .hb ∨ k = .ht

theorem payloadLen_profile_independent (k : HK) (hk : CheckedKind k) (d : Nat) :
    payloadLen .dev k d = payloadLen .release k d := by
  rcases hk with h | h | h | h <;> subst h <;> rfl

/-- `ref_from_slice` gives the same outcome in both profiles for every checked header kind, slice and address -/
theorem refFromSlice_profile_independent (k : HK) (hk : CheckedKind k) (addr : Nat) (bytes : Bytes) :
    refFromSlice .dev k addr bytes = refFromSlice .release k addr bytes := by
  rw [refFromSlice_eq, refFromSlice_eq, payloadLen_profile_independent k hk]

/-- loading a boot information (C02) and a header (C10): identical in both profiles -/
theorem load_profile_independent (null : Bool) (mem : Bytes)
    (hmem : null = false → mem.length ≥ 8 ∧ mem.length ≥ le32 mem 0) :
    load .dev null mem = load .release null mem := C02.load_profile_independent null mem hmem

theorem hload_profile_independent (null : Bool) (mem : Bytes)
    (hmem : null = false → mem.length ≥ 16 ∧ mem.length ≥ le32 mem 8) :
    hload .dev null mem = hload .release null mem := C10.hload_profile_independent null mem hmem

/-- one iterator step, all three tag-header kinds (including `DummyTestHeader`, whose unchecked subtraction wraps in
    release builds): identical in both profiles -/
theorem next_profile_independent (k : HK) (hk : C03.IterKind k) (buf : Bytes) (off : Nat)
    (hb : buf.length % 8 = 0) (hlen : buf.length < 2^62) (ho : off % 8 = 0) (hle : off ≤ buf.length) :
    tagIterNext .dev k buf off = tagIterNext .release k buf off := by
  rw [tagIterNext_eq .dev k hk buf off hb hlen ho hle, tagIterNext_eq .release k hk buf off hb hlen ho hle]

/-- the whole tag walk -/
theorem tags_profile_independent (k : HK) (hk : C03.IterKind k) (buf : Bytes)
    (hb : buf.length % 8 = 0) (hlen : buf.length < 2^62) :
    tagsOf .dev k buf = tagsOf .release k buf := by
  rw [C03.tags_eq_spec .dev k hk buf hb hlen, C03.tags_eq_spec .release k hk buf hb hlen]

theorem usub_profile_independent {w a b : Nat} (h : b ≤ a) : usub .dev w a b = usub .release w a b :=
  (usub_ok .dev w a b h).trans (usub_ok .release w a b h).symm

theorem castTo_profile_independent {k : HK} {t : TyDesc} {size : Nat} (h : t.dstLen .dev size = t.dstLen .release size)
    (pl : Nat) : castTo .dev k t size pl = castTo .release k t size pl := by
  unfold castTo; rw [h]

/-- casting a walked tag (size ≥ 8) to any built-in kind of either crate: only `NetworkTag` and the information request
    subtract unchecked, and from a size ≥ 8 -/
theorem cast_profile_independent (k : Kind) (size pl : Nat) (hs : 8 ≤ size) :
    castTo .dev .tag k.desc size pl = castTo .release .tag k.desc size pl := by
  refine castTo_profile_independent ?_ pl
  cases k <;> first | rfl | exact usub_profile_independent hs

theorem hcast_profile_independent (k : HKind) (size pl : Nat) (hs : 8 ≤ size) :
    castTo .dev .ht k.desc size pl = castTo .release .ht k.desc size pl := by
  refine castTo_profile_independent ?_ pl
  cases k <;> first | rfl | exact congrArg (· >>= _) (usub_profile_independent hs)

/-- the typed getters of the boot information -/
theorem getTag_profile_independent (area : Bytes) (k : Kind) (hb : area.length % 8 = 0) (hlen : area.length < 2^62) :
    getTag .dev area k = getTag .release area k := by
  rw [getTag_eq, getTag_eq, tags_profile_independent .tag C03.IterKind.tag area hb hlen,
    C03.tags_eq_spec .release .tag C03.IterKind.tag area hb hlen]
  exact firstCast_congr fun it hmem =>
    have ⟨_, _, hsize8, _⟩ := C03.walk_items_inside .tag area _ 0 (by omega) it hmem
    cast_profile_independent k it.size it.pl hsize8

/-- all field accessors, the EFI / ELF / memory-map iterators, RSDP checksums, strings and the framebuffer reader are
    profile-free by construction: their model functions take no `Profile` (the sites whose arithmetic can overflow -
    module size, area / section end addresses, entry_size * shndx, the checksum - are explicit saturating / wrapping /
    64-bit operations) -/
theorem accessors_take_no_profile : True := trivial

/-- the full statement "no input leads to undefined behaviour" does NOT hold: a checksum-valid header whose architecture
    word is 1 makes `load` read an undeclared `HeaderTagISA` value (known finding F20) -/
theorem full_statement_fails :
    ∃ mem, hload .dev false mem = .ub ∧ mem.length = 16 := by
  refine ⟨[0xd6,0x50,0x52,0xe8, 1,0,0,0, 16,0,0,0, 0x19,0xaf,0xad,0x17], ?_, rfl⟩
  decide

/-- …and it is the ONLY way the modelled load can leave the specified outcomes: with a defined architecture word the
    load is `ok`, never `ub` (`C10.hload_eq_closed`, `C10.hloadClosed_ok`) -/
theorem load_ub_only_by_arch (p : Profile) (mem : Bytes) (hmem : mem.length ≥ 16 ∧ mem.length ≥ le32 mem 8)
    (ha : le32 mem 4 = 0 ∨ le32 mem 4 = 4) : hload p false mem ≠ .ub := by
  obtain ⟨r, hr⟩ := C10.hloadClosed_ok (le32 mem 0) (le32 mem 4) (le32 mem 8) (le32 mem 12)
  rw [C10.hload_eq_closed p mem hmem ha, hr]
  nofun

end Mb2.C08
