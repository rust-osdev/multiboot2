/-
  SOURCE = MODEL for `From<MemoryAreaTypeId> for MemoryAreaType` and `From<MemoryAreaType> for MemoryAreaTypeId`
  (multiboot2/src/memory_map.rs).
-/

import Mb2.Props.FnsBase
import Mb2.Lemmas.Ids
open Mb2 Mb2.Rir

namespace Mb2.Fns

def encMemType : MemoryAreaType → V
  | .available => .c0 "MemoryAreaType::Available" | .reserved => .c0 "MemoryAreaType::Reserved"
  | .acpiAvailable => .c0 "MemoryAreaType::AcpiAvailable" | .reservedHibernate => .c0 "MemoryAreaType::ReservedHibernate"
  | .defective => .c0 "MemoryAreaType::Defective"
  | .custom c => .c1 "MemoryAreaType::Custom" (.int .u32 c.toNat)

/-- `impl From<MemoryAreaTypeId> for MemoryAreaType` = `MemoryAreaType.ofU32` -/
theorem mem_type_from_id_eq (p : Profile) (v : UInt32) :
    evalO p [.int .u32 v.toNat] Gen.Fns.mem_type_from_id = some (.ok (encMemType (MemoryAreaType.ofU32 v))) := by
  simp only [Gen.Fns.mem_type_from_id, rir]
  refine UInt32.cases_below 6 v ?_ fun h => ?_
  · decide
  · rw [MemoryAreaType.ofU32_of_ge h, encMemType]
    repeat rw [if_neg (by omega)]

/-- `impl From<MemoryAreaType> for MemoryAreaTypeId` = `MemoryAreaType.toU32` -/
theorem id_from_mem_type_eq (p : Profile) (t : MemoryAreaType) :
    (evalO p [encMemType t] Gen.Fns.id_from_mem_type).map (fun r => r >>= fun v => .ok (typed .u32 v)) =
      some (.ok (.int .u32 t.toU32.toNat)) := by
  cases t
  case custom c => simp only [encMemType, Gen.Fns.id_from_mem_type, rir, Option.map, typed, MemoryAreaType.toU32]
  -- `decide` needs a closed term: the profile, which the body never looks at, is fixed first
  all_goals cases p <;> decide

end Mb2.Fns
