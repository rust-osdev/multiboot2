/-
  The impl blocks (as tables, see `FnsTblLookup.lean`) of `SmbiosTag`, `BootLoaderNameTag`, `RsdpV1Tag`, `RsdpV2Tag`, `ModuleTag`
  (with the free functions of module.rs) and of multiboot2/src/framebuffer.rs (`FramebufferTag` with its `PartialEq`,
  `FramebufferType`, `From<FramebufferType> for FramebufferTypeId`, `Reader`).
-/

import Mb2.Props.FnsTblLookup
import Mb2.Props.FnsCtor
open Mb2 Mb2.Rir

namespace Mb2.Fns


-- BEGIN TABLES (generated once by a script from the unchanged tree, then REVIEWED row by row)
theorem tbl_smbios_eq : Gen.Fns.tbl_smbios = some [
  ("new->Box<Self>", "covered", none, [], []),
  ("major->u8", "ir", some (.var 0), ["self.major"], []),
  ("minor->u8", "ir", some (.var 0), ["self.minor"], []),
  ("tables->&[u8]", "ir", some (.var 0), ["self.tables"], [])] := rfl

theorem tbl_loader_eq : Gen.Fns.tbl_loader = some [
  ("new->Box<Self>", "covered", none, [], []),
  ("typ->TagType", "ir", some (.var 0), ["self.header.typ.into()"], []),
  ("size->usize", "ir", some (.cast (.var 0) .usize), ["self.header.size"], []),
  ("name->Result<&str,StringError>", "covered", none, [], [])] := rfl

theorem tbl_rsdp1_eq : Gen.Fns.tbl_rsdp1 = some [
  ("new->Self", "covered", none, [], []),
  ("signature->Result<&str,Utf8Error>", "ir", some (.var 0), ["str::from_utf8(&self.signature)"], []),
  ("checksum_is_valid->bool", "covered", none, [], []),
  ("oem_id->Result<&str,Utf8Error>", "ir", some (.var 0), ["str::from_utf8(&self.oem_id)"], []),
  ("revision->u8", "ir", some (.var 0), ["self.revision"], []),
  ("rsdt_address->usize", "ir", some (.cast (.var 0) .usize), ["self.rsdt_address"], [])] := rfl

theorem tbl_rsdp2_eq : Gen.Fns.tbl_rsdp2 = some [
  ("new->Self", "covered", none, [], []),
  ("signature->Result<&str,Utf8Error>", "ir", some (.var 0), ["str::from_utf8(&self.signature)"], []),
  ("checksum_is_valid->bool", "covered", none, [], []),
  ("oem_id->Result<&str,Utf8Error>", "ir", some (.var 0), ["str::from_utf8(&self.oem_id)"], []),
  ("revision->u8", "ir", some (.var 0), ["self.revision"], []),
  ("xsdt_address->usize", "ir", some (.cast (.var 0) .usize), ["self.xsdt_address"], []),
  ("ext_checksum->u8", "ir", some (.var 0), ["self.ext_checksum"], [])] := rfl

theorem tbl_fb_tag_eq : Gen.Fns.tbl_fb_tag = some [
  ("new->Box<Self>", "ir", some (.letIn 101 (.pair (.lit 8) (.cast (.lit 0) .u32)) (.c1 "new_boxed" (.pair (.var 101) (.pair (.var 0) (.pair (.var 1) (.pair (.var 2) (.pair (.var 3) (.pair (.var 4) (.pair (.var 5) (.pair (.var 6) (.var 7))))))))))), ["address.to_ne_bytes()", "pitch.to_ne_bytes()", "width.to_ne_bytes()", "height.to_ne_bytes()", "[bpp]", "[buffer_type_id as u8]", "[0;2]", "buffer_type.serialize()"], ["let address=address.to_ne_bytes()", "let pitch=pitch.to_ne_bytes()", "let width=width.to_ne_bytes()", "let height=height.to_ne_bytes()", "let buffer_type_id=buffer_type.id()", "let padding=[0;2]", "let optional_buffer=buffer_type.serialize()"]),
  ("address->u64", "ir", some (.var 0), ["self.address"], []),
  ("pitch->u32", "ir", some (.var 0), ["self.pitch"], []),
  ("width->u32", "ir", some (.var 0), ["self.width"], []),
  ("height->u32", "ir", some (.var 0), ["self.height"], []),
  ("bpp->u8", "ir", some (.var 0), ["self.bpp"], []),
  ("buffer_type->Result<FramebufferType,UnknownFramebufferType>", "covered", none, [], [])] := rfl

theorem tbl_fb_type_eq : Gen.Fns.tbl_fb_type = some [
  ("id->FramebufferTypeId", "text", none, ["{match self{FramebufferType::Indexed{..}=>FramebufferTypeId::Indexed,FramebufferType::RGB{..}=>FramebufferTypeId::RGB,FramebufferType::Text=>FramebufferTypeId::Text,}}"], []),
  ("serialize->alloc::vec::Vec<u8>", "text", none, ["{let mut data=alloc::vec::Vec::new();match self{FramebufferType::Indexed{palette}=>{let num_colors=palette.len()as u16;data.extend(&num_colors.to_ne_bytes());for color in*palette{let serialized_color=[color.red,color.green,color.blue];data.extend(&serialized_color);}}FramebufferType::RGB{red,green,blue}=>data.extend(&[red.position,red.size,green.position,green.size,blue.position,blue.size,]),FramebufferType::Text=>{}}data}"], [])] := rfl

theorem tbl_fb_eq_eq : Gen.Fns.tbl_fb_eq = some [
  ("eq->bool", "ir", some (.bin .land (.bin .land (.bin .land (.bin .land (.bin .land (.bin .land (.bin .land (.bin .eq (.var 0) (.var 1)) (.bin .eq (.var 2) (.var 3))) (.bin .eq (.var 4) (.var 5))) (.bin .eq (.var 6) (.var 7))) (.bin .eq (.var 8) (.var 9))) (.bin .eq (.var 10) (.var 11))) (.bin .eq (.var 12) (.var 13))) (.bin .eq (.var 14) (.var 15))), ["self.header", "other.header", "self.address", "other.address", "self.pitch", "other.pitch", "self.width", "other.width", "self.height", "other.height", "self.bpp", "other.bpp", "self.framebuffer_type", "other.framebuffer_type", "self.buffer", "other.buffer"], [])] := rfl

theorem tbl_fbid_from_type_eq : Gen.Fns.tbl_fbid_from_type = some [
  ("from->Self", "text", none, ["{match value{FramebufferType::Indexed{..}=>Self::Indexed,FramebufferType::RGB{..}=>Self::RGB,FramebufferType::Text=>Self::Text,}}"], [])] := rfl

theorem tbl_fb_reader_eq : Gen.Fns.tbl_fb_reader = some [
  ("new->Self", "ir", some (.pair (.var 0) (.lit 0)), ["buffer"], []),
  ("read_next_u8->u8", "covered", none, [], []),
  ("read_next_u16->u16", "covered", none, [], []),
  ("current_ptr->*constu8", "ir", some (.var 0), ["self.buffer.as_ptr().add(self.off)"], [])] := rfl

theorem tbl_module_eq : Gen.Fns.tbl_module = some [
  ("new->Box<Self>", "covered", none, [], []),
  ("cmdline->Result<&str,StringError>", "covered", none, [], []),
  ("start_address->u32", "ir", some (.var 0), ["self.mod_start"], []),
  ("end_address->u32", "ir", some (.var 0), ["self.mod_end"], []),
  ("module_size->u32", "covered", none, [], [])] := rfl

theorem tbl_module_free_eq : Gen.Fns.tbl_module_free = some [
  ("module_iter->ModuleIter", "ir", some (.var 0), ["iter"], [])] := rfl

-- END TABLES

/-! ### what the pinned rows mean -/

/-- `FramebufferTag::new`: header (type 8) and the content slices in the order of the struct: address, pitch, width,
    height, bpp, type byte, two reserved zero bytes, the serialized colour information -/
theorem fb_tag_new_eq (p : Profile) (a pi w h b t r c : V) :
    evalO p [a, pi, w, h, b, t, r, c] (tblRow Gen.Fns.tbl_fb_tag "new->Box<Self>") =
      some (.ok (.c1 "new_boxed" (.pair (mbiHdrV (Kind.typ .fb) 0)
        (.pair a (.pair pi (.pair w (.pair h (.pair b (.pair t (.pair r c)))))))))) ∧
    tblVars Gen.Fns.tbl_fb_tag "new->Box<Self>" =
      ["address.to_ne_bytes()", "pitch.to_ne_bytes()", "width.to_ne_bytes()", "height.to_ne_bytes()", "[bpp]",
       "[buffer_type_id as u8]", "[0;2]", "buffer_type.serialize()"] := by
  rw [tbl_fb_tag_eq, tblRow_head, tblVars_head]
  exact ⟨rfl, rfl⟩

/-- `==` on two framebuffer tags compares the header, the six fixed fields and the `buffer` slice (whose length is
    `dst_len` = declared size - 32, `dst_len_framebuffer_eq`) - nothing behind the declared size -/
theorem fb_eq_compares_declared_extent :
    tblVars Gen.Fns.tbl_fb_eq "eq->bool" =
      ["self.header", "other.header", "self.address", "other.address", "self.pitch", "other.pitch", "self.width", "other.width",
       "self.height", "other.height", "self.bpp", "other.bpp", "self.framebuffer_type", "other.framebuffer_type",
       "self.buffer", "other.buffer"] := by
  rw [tbl_fb_eq_eq, tblVars_head]

/-- the VBE flag sets (representation width and bit values) -/
theorem vbe_flag_bits :
    Gen.Fns.bitflags.map (fun l => l.filter (fun x => x.1 != "ElfSectionFlags")) =
      some [("VBECapabilities", "u32", [("SWITCHABLE_DAC", 1), ("NOT_VGA_COMPATIBLE", 2), ("RAMDAC_FIX", 4)]),
            ("VBEDirectColorAttributes", "u8", [("PROGRAMMABLE", 1), ("RESERVED_USABLE", 2)]),
            ("VBEModeAttributes", "u16", [("SUPPORTED", 1), ("TTY_SUPPORTED", 4), ("COLOR", 8), ("GRAPHICS", 16),
              ("NOT_VGA_COMPATIBLE", 32), ("NO_VGA_WINDOW", 64), ("LINEAR_FRAMEBUFFER", 128)]),
            ("VBEWindowAttributes", "u8", [("RELOCATABLE", 1), ("READABLE", 2), ("WRITEABLE", 4)])] := rfl

end Mb2.Fns
