/-
  C16 — Heap construction lays out header and content exactly; cloning is the identity.
-/
import Mb2.Build
import Mb2.Lemmas.Build
-- registered under C16 in `Props/INDEX.json`: the check audits them through this module; nothing below uses them
import Mb2.Props.FnsTblTags
import Mb2.Props.FnsTblElf
import Mb2.Props.FnsTblEfi
import Mb2.Props.FnsBoxed
import Mb2.Props.FnsCast
namespace Mb2.C16
open Mb2

/-- what `new_boxed` produces depends on the content slices only through their concatenation: ANY partition of the
    same content into slices gives the same object (no gaps, no reordering) -/
theorem partition_irrelevant (p : Profile) (k : HK) (desc : TyDesc) (hdr : Bytes) (s1 s2 : List Bytes)
    (h : s1.flatten = s2.flatten) : newBoxed p k desc hdr s1 = newBoxed p k desc hdr s2 := by
  unfold newBoxed
  simp only [h]

/-- Content law for information tags (`TagHeader`), generic target type, ANY header image: the header with its size
    field set to `8 + total content length`, then the concatenated content; 8-aligned allocation of that total rounded
    up to 8; the box is later freed with exactly the layout it was allocated with (deallocation size = `size_of_val` =
    allocation size). Never a panic. -/
theorem newBoxed_generic_tag (p : Profile) (hdr : Bytes) (slices : List Bytes) (hlen : slices.flatten.length < 2^62) :
    newBoxed p .tag (genericDesc .tag) hdr slices =
      .ok ⟨setSize .tag hdr (8 + slices.flatten.length) ++ slices.flatten, roundUp8 (8 + slices.flatten.length), 8,
           roundUp8 (8 + slices.flatten.length)⟩ :=
  newBoxed_eq p .tag _ hdr slices (by omega) (genericDesc_truthful p .tag _ (Nat.le_add_right ..))

/-- allocation and deallocation layouts always coincide when `new_boxed` returns at all (any header kind, any type) -/
theorem dealloc_eq_alloc (p : Profile) (k : HK) (desc : TyDesc) (hdr : Bytes) (slices : List Bytes) (b : Boxed)
    (h : newBoxed p k desc hdr slices = .ok b) : b.deallocSize = b.allocSize ∧ b.align = 8 ∧ b.allocSize % 8 = 0 := by
  unfold newBoxed at h
  obtain ⟨alloc, hi, h⟩ := Res.bind_eq_ok.mp h
  obtain ⟨n, -, h⟩ := Res.bind_eq_ok.mp h
  -- the final `assert_eq!`: only its passing branch returns
  obtain ⟨c, rfl⟩ := Res.ite_panic_eq_ok.mp h
  exact ⟨Decidable.not_not.mp c, rfl, incAlign_mod hi⟩

/-- Cloning an information tag (declared size ≥ 8, in-memory extent `T` of `roundUp8 size` bytes) yields an equal tag:
    same declared size, same bytes up to that size - the padding is NOT cloned into the content. -/
theorem clone_identity (p : Profile) (T : Bytes) (size : Nat) (hs : 8 ≤ size) (hT : T.length = roundUp8 size)
    (hsz : le32 T 4 = size) (hlen : size < 2^32) :
    ∃ b, cloneDyn p .tag (genericDesc .tag) T = .ok b ∧ b.bytes.length = size ∧ le32 b.bytes 4 = size ∧
      b.bytes.drop 8 = slice T 8 (size - 8) ∧ b.bytes.take 4 = T.take 4 ∧ b.allocSize = roundUp8 size := by
  have g := roundUp8_ge size
  have hsl : (slice T 8 (size - 8)).length = size - 8 := slice_length T 8 (size - 8) (by omega)
  have h4 : (T.take 4).length = 4 := by rw [List.length_take]; omega
  have hc : cloneDyn p .tag (genericDesc .tag) T =
      .ok ⟨T.take 4 ++ enc32 size ++ slice T 8 (size - 8), roundUp8 size, 8, roundUp8 size⟩ := by
    unfold cloneDyn
    -- the size word, its payload length, the bound on the payload slice
    rw [show HK.tag.sizeOff = 4 from rfl, rd32_ok (b := T) (o := 4) (by omega), Res.bind_ok, hsz,
      payloadLen_ge p .tag size hs, Res.bind_ok, show HK.tag.hsize = 8 from rfl, if_neg (show ¬ size - 8 > T.length - 8 by omega)]
    -- `new_boxed` of the header bytes and that slice, with the size patched into the header again
    rw [newBoxed_generic_tag p _ _ (by rw [List.flatten_singleton, hsl]; omega), List.flatten_singleton, hsl, Nat.add_sub_cancel' hs,
      setSize_tag _ _ (by rw [List.length_take]; omega), List.take_take]
    rfl
  refine ⟨_, hc, ?_, ?_, ?_, ?_, rfl⟩
  · simp only [List.length_append, h4, enc32_length, hsl]; omega
  · rw [List.append_assoc, le32_append_right_of _ _ 0 h4.symm, le32_enc32]; omega
  · exact List.drop_left' (by rw [List.length_append, h4, enc32_length])
  · rw [List.append_assoc]; exact List.take_left' h4

/-! Non-vacuity: a 14-byte tag clones to a 14-byte tag (the two padding bytes are not part of the clone's content) -/
example : (cloneDyn .dev .tag (genericDesc .tag) [1,0,0,0, 14,0,0,0, 1,2,3,4,5,6, 9,9]).isOk = true := by decide
example : newBoxed .dev .tag (genericDesc .tag) (mbiHdr 7 0) [[1],[2,3]] =
    .ok ⟨[7,0,0,0, 11,0,0,0, 1,2,3], 16, 8, 16⟩ := by decide

end Mb2.C16
