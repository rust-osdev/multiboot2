/-
  SOURCE = MODEL for `impl Header for HeaderTagHeader` (multiboot2-header/src/tags.rs): `payload_len`.
-/

import Mb2.Props.FnsBase
open Mb2 Mb2.Rir

namespace Mb2.Fns

theorem ht_header_payload_len_eq (p : Profile) (d : Nat) (hd : d < W32) :
    evalO p [.int .u32 d] Gen.Fns.ht_header_payload_len = some (intRes .usize (payloadLen p .ht d)) := by
  simp only [Gen.Fns.ht_header_payload_len, rir, mod_W64_of_lt_W32 hd, payloadLen]
  simp +contextual only [usub_ok, Res.bind_ok]

end Mb2.Fns
