/-
  C05 — Variable-length tag contents have exactly the extent the tag size implies.
-/
import Mb2.Tags
import Mb2.Lemmas.View
import Mb2.Lemmas.Tags
import Mb2.Lemmas.Arith
-- registered under C05 in `Props/INDEX.json`: the check audits them through this module; nothing below uses them
import Mb2.Props.FnsEfi
import Mb2.Props.FnsTblEfi
import Mb2.Props.FnsTblTags
import Mb2.Props.FnsGetters
import Mb2.Props.FnsElfIter
import Mb2.Props.FnsFb
import Mb2.Props.FnsDstMbi
import Mb2.Props.FnsDstHdr
namespace Mb2.C05
open Mb2

/-- the variable-length kinds of the boot information with their fixed part and element size -/
def varKinds : List (Kind × Nat × Nat) :=
  [(.cmdline, 8, 1), (.loader, 8, 1), (.module, 16, 1), (.mmap, 16, 24), (.efiMmap, 16, 1), (.elf, 20, 1), (.smbios, 16, 1),
   (.fb, 32, 1)]

theorem varKinds_desc : ∀ x ∈ varKinds, x.1.desc = dstDesc x.2.1 x.2.2 := by
  intro x hx
  simp only [varKinds, List.mem_cons, List.mem_nil_iff, or_false] at hx
  rcases hx with h | h | h | h | h | h | h | h <;> subst h <;> rfl

/-- For every variable-length kind with fixed part `base` and element size `e`, and every declared size ≥ 8:
    the typed view exists iff `size ≥ base` and `(size − base) % e = 0` (otherwise: controlled panic); then the exposed
    tail has exactly `(size − base)/e` elements, i.e. it is `[base, size)` - no padding, nothing of the next tag -
    and the view spans the tag's rounded extent. Holds in both profiles. -/
theorem dst_view_exact (p : Profile) (base e size : Nat) (he : 0 < e) (hs : 8 ≤ size) (hb8 : 8 ≤ base) :
    castTo p .tag (dstDesc base e) size (size - 8) =
      (if size < base ∨ (size - base) % e ≠ 0 then .panic
       else .ok (roundUp8 size, (size - base) / e)) :=
  castTo_dstDesc p .tag rfl base e size hs hb8

/-- the exposed extent ends exactly at the declared size: `base + n·e = size` -/
theorem dst_extent_ends_at_size (p : Profile) (base e size sov n : Nat) (he : 0 < e) (hs : 8 ≤ size) (hb8 : 8 ≤ base)
    (h : castTo p .tag (dstDesc base e) size (size - 8) = .ok (sov, n)) :
    base ≤ size ∧ base + n * e = size ∧ sov = roundUp8 size ∧ size ≤ sov :=
  have ⟨h1, h2, h3⟩ := castTo_dstDesc_eq_ok rfl hs hb8 h
  ⟨h1, h2, h3, h3 ▸ roundUp8_ge size⟩

/-- the framebuffer palette `[34, 34 + 3·n)` is handed out only when it lies inside the buffer `[32, size)` -/
theorem palette_inside (T : Bytes) (v : View) (po num : Nat)
    (h : fbBufferType T v = .ok (.ok (.indexed po num))) : po = 34 ∧ 34 + 3 * num ≤ 32 + v.n := by
  by_cases hT : 30 ≤ T.length
  · rw [fbBufferType_eq T v hT] at h
    -- only the branch of type byte 0 returns an indexed type, and its last line compares the palette with the buffer
    by_cases h2 : 2 < u8At T 29
    · rw [if_pos h2] at h; cases h
    by_cases h0 : u8At T 29 = 0
    · rw [if_neg h2, if_pos h0] at h
      simp only [Res.bind_eq_ok, Res.ite_ok_eq_ok, Ex.ok.injEq, FbType.indexed.injEq] at h
      obtain ⟨lo, -, hi, -, hfit, rfl, rfl⟩ := h
      exact ⟨rfl, by omega⟩
    by_cases h1 : u8At T 29 = 1
    · rw [if_neg h2, if_neg h0, if_pos h1] at h
      simp only [Res.bind_eq_ok, Res.ok.injEq, Ex.ok.injEq, reduceCtorEq, and_false, exists_false] at h
    · rw [if_neg h2, if_neg h0, if_neg h1] at h; cases h
  · -- the type byte lies outside `T`: reading it is a fault
    unfold fbBufferType rd8 at h
    rw [if_neg (by omega)] at h; cases h

/-! Non-vacuity -/
example : castTo .dev .tag (Kind.desc .mmap) 64 56 = .ok (64, 2) := by decide
example : castTo .dev .tag (Kind.desc .mmap) 63 55 = .panic := by decide
example : castTo .release .tag (Kind.desc .cmdline) 13 5 = .ok (16, 5) := by decide

end Mb2.C05
