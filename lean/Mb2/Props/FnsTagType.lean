/-
  SOURCE = MODEL for `From<u32> for TagType`, `From<TagType> for u32` and `TagType::val` (multiboot2/src/tag_type.rs).
-/

import Mb2.Props.FnsBase
import Mb2.Lemmas.Ids
open Mb2 Mb2.Rir

namespace Mb2.Fns

def encTagType : TagType → V
  | .end_ => .c0 "TagType::End" | .cmdline => .c0 "TagType::Cmdline" | .bootLoaderName => .c0 "TagType::BootLoaderName"
  | .module => .c0 "TagType::Module" | .basicMeminfo => .c0 "TagType::BasicMeminfo" | .bootdev => .c0 "TagType::Bootdev"
  | .mmap => .c0 "TagType::Mmap" | .vbe => .c0 "TagType::Vbe" | .framebuffer => .c0 "TagType::Framebuffer"
  | .elfSections => .c0 "TagType::ElfSections" | .apm => .c0 "TagType::Apm" | .efi32 => .c0 "TagType::Efi32"
  | .efi64 => .c0 "TagType::Efi64" | .smbios => .c0 "TagType::Smbios" | .acpiV1 => .c0 "TagType::AcpiV1"
  | .acpiV2 => .c0 "TagType::AcpiV2" | .network => .c0 "TagType::Network" | .efiMmap => .c0 "TagType::EfiMmap"
  | .efiBs => .c0 "TagType::EfiBs" | .efi32Ih => .c0 "TagType::Efi32Ih" | .efi64Ih => .c0 "TagType::Efi64Ih"
  | .loadBaseAddr => .c0 "TagType::LoadBaseAddr"
  | .custom c => .c1 "TagType::Custom" (.int .u32 c.toNat)

/-- `impl From<u32> for TagType` = `TagType.ofU32`, for all 2^32 values -/
theorem tag_type_from_u32_eq (p : Profile) (v : UInt32) :
    evalO p [.int .u32 v.toNat] Gen.Fns.tag_type_from_u32 = some (.ok (encTagType (TagType.ofU32 v))) := by
  simp only [Gen.Fns.tag_type_from_u32, rir]
  -- the `match` of the source as a chain of `if`s on `v`: the 22 named values by evaluation, the rest falls through
  refine UInt32.cases_below 22 v ?_ fun h => ?_
  · decide
  · rw [TagType.ofU32_of_ge h, encTagType]
    repeat rw [if_neg (by omega)]

/-- `impl From<TagType> for u32` = `TagType.toU32` -/
theorem u32_from_tag_type_eq (p : Profile) (t : TagType) :
    (evalO p [encTagType t] Gen.Fns.u32_from_tag_type).map (fun r => r >>= fun v => .ok (typed .u32 v)) =
      some (.ok (.int .u32 t.toU32.toNat)) := by
  cases t
  case custom c => simp only [encTagType, Gen.Fns.u32_from_tag_type, rir, Option.map, typed, TagType.toU32]
  -- `decide` needs a closed term: the profile, which the body never looks at, is fixed first
  all_goals cases p <;> decide

/-- `TagType::val` is nothing but the `u32::from` conversion (`TagType.val = TagType.toU32`) -/
theorem tag_type_val_eq (p : Profile) (x : V) :
    evalO p [x] Gen.Fns.tag_type_val = some (.ok x) := by
  simp only [Gen.Fns.tag_type_val, rir]

end Mb2.Fns
