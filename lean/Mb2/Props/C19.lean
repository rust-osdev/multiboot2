/-
  C19 — ELF-section iteration decodes 32/64-bit entries in order, inside the tag.
  `T` = permitted extent of the tag, `v.n = size − 20` = number of section bytes `L`.
-/
import Mb2.Tags
import Mb2.Lemmas.Res
-- registered under C19 in `Props/INDEX.json`: the check audits them through this module; nothing below uses them
import Mb2.Props.FnsTblElf
import Mb2.Props.Layout
import Mb2.Props.FnsGetters
import Mb2.Props.FnsDstMbi
import Mb2.Props.FnsElfIter
import Mb2.Props.FnsElfOpen
import Mb2.Props.FnsElfType
namespace Mb2.C19
open Mb2

/-- `sections()` accepts exactly when all `n` entries and the string-table entry lie inside the section bytes;
    everything else is a controlled panic -/
theorem open_iff (T : Bytes) (v : View) (hT : 20 ≤ T.length) :
    elfOpen T v =
      (if le32 T 8 * le32 T 12 ≤ v.n ∧ (le32 T 8 = 0 ∨ (le32 T 16 + 1) * le32 T 12 ≤ v.n)
       then .ok (le32 T 8, le32 T 12) else .panic) := by
  unfold elfOpen
  rw [rd32_ok (by omega), rd32_ok (by omega), rd32_ok (by omega), Res.bind_ok, Res.bind_ok, Res.bind_ok, ite_or_same]
  exact ite_flip (by omega) _ _

theorem open_ok {T : Bytes} {v : View} (hT : 20 ≤ T.length) {num es : Nat} (h : elfOpen T v = .ok (num, es)) :
    num = le32 T 8 ∧ es = le32 T 12 ∧ num * es ≤ v.n ∧ (num = 0 ∨ (le32 T 16 + 1) * es ≤ v.n) := by
  rw [open_iff T v hT, Res.ite_ok_eq_ok, Prod.mk.injEq] at h
  obtain ⟨c, rfl, rfl⟩ := h
  exact ⟨rfl, rfl, c⟩

/-- decoding one entry of size 40 or 64 that lies inside the extent never faults and reads the ELF32 / ELF64 layout -/
theorem sec_at_ok (T : Bytes) (es o rem : Nat) (hes : es = 40 ∨ es = 64) (hin : o + es ≤ T.length) :
    ∃ s, elfSecAt T es o rem = .ok s ∧ s.off = o ∧ s.rem = rem ∧ s.raw = le32 T (o + 4) ∧
      s.typ = ElfSectionType.classify (le32 T (o + 4)) ∧
      (es = 40 → s.flags = le32 T (o + 8) % 8 ∧ s.start = le32 T (o + 12) ∧ s.size = le32 T (o + 20) ∧ s.align = le32 T (o + 32)) ∧
      (es = 64 → s.flags = le64 T (o + 8) % 8 ∧ s.start = le64 T (o + 16) ∧ s.size = le64 T (o + 32) ∧ s.align = le64 T (o + 48)) := by
  rcases hes with h | h <;> subst h <;> unfold elfSecAt
  · rw [if_pos rfl, rd32_ok (by omega), rd32_ok (by omega), rd32_ok (by omega), rd32_ok (by omega), rd32_ok (by omega)]
    exact ⟨_, rfl, rfl, rfl, rfl, rfl, fun _ => ⟨rfl, rfl, rfl, rfl⟩, fun h => absurd h (by decide)⟩
  · rw [if_neg (by decide), if_pos rfl, rd32_ok (by omega), rd64_ok (by omega), rd64_ok (by omega), rd64_ok (by omega),
      rd64_ok (by omega)]
    exact ⟨_, rfl, rfl, rfl, rfl, rfl, fun h => absurd h (by decide), fun _ => ⟨rfl, rfl, rfl, rfl⟩⟩

/-- an entry size other than 40 / 64 is rejected by a panic before anything is read -/
theorem sec_at_bad_size (T : Bytes) (es o rem : Nat) (h40 : es ≠ 40) (h64 : es ≠ 64) : elfSecAt T es o rem = .panic := by
  unfold elfSecAt; rw [if_neg h40, if_neg h64]

/-- the `i`-th entry as the iterator would deliver it, `none` when it is unused (skipped) or cannot be decoded -/
def entryAt (T : Bytes) (es rem o i : Nat) : Option ElfSec :=
  match elfSecAt T es (o + i * es) (rem - 1 - i) with
  | .ok s => if s.typ = .unused then none else some s
  | _ => none

/-- The iterator over `rem` entries of size 40/64 that all lie inside the extent, in closed form: it ends normally and
    yields EXACTLY the in-use entries in index order (`filterMap` over `0 .. rem-1`). -/
theorem iter_eq (T : Bytes) (es : Nat) (hes : es = 40 ∨ es = 64) :
    ∀ rem o, o + rem * es ≤ T.length →
      elfIter T es rem o = ((List.range rem).filterMap (entryAt T es rem o), .done) := by
  intro rem
  induction rem with
  | zero => intro o _; rfl
  | succ n ih =>
    intro o h
    rw [Nat.succ_mul] at h
    obtain ⟨s, hs, _⟩ := sec_at_ok T es o n hes (by omega)
    have h0 : entryAt T es (n + 1) o 0 = if s.typ = .unused then none else some s := by
      simp only [entryAt, Nat.zero_mul, Nat.add_zero, Nat.add_sub_cancel, Nat.sub_zero, hs]
    -- the entries behind the first are the entries of the iterator started one entry further
    have htail : (entryAt T es (n + 1) o ∘ Nat.succ) = entryAt T es n (o + es) := by
      funext i
      have hoff : o + (i + 1) * es = o + es + i * es := by rw [Nat.succ_mul, ← Nat.add_assoc, Nat.add_right_comm o]
      have hrem : n + 1 - 1 - (i + 1) = n - 1 - i := by rw [Nat.add_sub_cancel, Nat.sub_succ', Nat.sub_right_comm]
      simp only [Function.comp, entryAt, hoff, hrem]
    unfold elfIter
    rw [hs, ih (o + es) (by omega), List.range_succ_eq_map, List.filterMap_cons, List.filterMap_map, h0, htail]
    by_cases hu : s.typ = .unused
    · simp only [hu, if_true]
    · simp only [hu, if_false]

theorem entryAt_some {T : Bytes} {es rem o i : Nat} {s : ElfSec} (hes : es = 40 ∨ es = 64) (hin : o + i * es + es ≤ T.length)
    (h : entryAt T es rem o i = some s) :
    s.off = o + i * es ∧ s.typ ≠ .unused ∧ s.typ = ElfSectionType.classify (le32 T (s.off + 4)) := by
  obtain ⟨s', hs, hoff, _hrem, _hraw, htyp, _hfields⟩ := sec_at_ok T es (o + i * es) (rem - 1 - i) hes hin
  unfold entryAt at h
  rw [hs] at h
  simp only at h
  split at h
  · cases h
  · cases h; exact ⟨hoff, ‹_›, hoff ▸ htyp⟩

/-- iteration over `rem` entries of size 40/64 that all lie inside the extent ends normally (no panic, no fault),
    every yielded section is one of those entries and is in use (its raw type is recognised); the order is `iter_eq_filter` -/
theorem iter_inside (T : Bytes) (es : Nat) (hes : es = 40 ∨ es = 64) :
    ∀ rem o, o + rem * es ≤ T.length →
      (elfIter T es rem o).2 = .done ∧
      (∀ s ∈ (elfIter T es rem o).1, o ≤ s.off ∧ s.off + es ≤ o + rem * es ∧ (s.off - o) % es = 0 ∧
          s.typ ≠ .unused ∧ s.typ = ElfSectionType.classify (le32 T (s.off + 4))) ∧
      (elfIter T es rem o).1.length ≤ rem := by
  intro rem o h
  rw [iter_eq T es hes rem o h]
  refine ⟨rfl, fun s hs => ?_, Nat.le_trans (List.length_filterMap_le _ _) (Nat.le_of_eq List.length_range)⟩
  obtain ⟨i, hi, hs⟩ := List.mem_filterMap.mp hs
  have hi' : (i + 1) * es ≤ rem * es := Nat.mul_le_mul_right es (List.mem_range.mp hi)
  rw [Nat.succ_mul] at hi'
  obtain ⟨hoff, hu, htyp⟩ := entryAt_some hes (by omega) hs
  exact ⟨by omega, by omega, by rw [hoff, Nat.add_sub_cancel_left, Nat.mul_mod_left], hu, htyp⟩

/-- ORDER AND COMPLETENESS: over `rem` entries that lie inside the extent the iterator yields EXACTLY the in-use entries,
    in index order - nothing dropped, duplicated or reordered (`filterMap` over `0 .. rem-1`) -/
theorem iter_eq_filter (T : Bytes) (es : Nat) (hes : es = 40 ∨ es = 64) :
    ∀ rem o, o + rem * es ≤ T.length →
      (elfIter T es rem o).1 = (List.range rem).filterMap (entryAt T es rem o) :=
  fun rem o h => congrArg Prod.fst (iter_eq T es hes rem o h)

/-- with entries present and an entry size that is neither 40 nor 64, the first `next()` panics -/
theorem iter_bad_size (T : Bytes) (es rem o : Nat) (h40 : es ≠ 40) (h64 : es ≠ 64) :
    elfIter T es (rem + 1) o = ([], .bad) := by
  unfold elfIter; rw [sec_at_bad_size T es o rem h40 h64]

/-- the entries accepted by `sections()` lie inside the tag: composition of `open_ok` and `iter_inside` -/
theorem sections_inside_tag (T : Bytes) (v : View) (hT : 20 + v.n ≤ T.length) (num es : Nat)
    (h : elfOpen T v = .ok (num, es)) (hes : es = 40 ∨ es = 64) :
    (elfIter T es num 20).2 = .done ∧ ∀ s ∈ (elfIter T es num 20).1, 20 ≤ s.off ∧ s.off + es ≤ 20 + v.n := by
  obtain ⟨-, -, hfit, -⟩ := open_ok (by omega) h
  obtain ⟨hdone, hsecs, -⟩ := iter_inside T es hes num 20 (by omega)
  refine ⟨hdone, fun s hs => ?_⟩
  obtain ⟨hlo, hhi, -⟩ := hsecs s hs
  exact ⟨hlo, by omega⟩

/-- names resolve through the string-table entry the tag designates: once `sections()` accepted a non-empty tag, reading
    the `addr` field of the `shndx`-th section header stays inside the tag (never a fault) -/
theorem name_reads_inside_tag (T : Bytes) (v : View) (hT : 20 + v.n ≤ T.length) (num es : Nat)
    (h : elfOpen T v = .ok (num, es)) (hes : es = 40 ∨ es = 64) (hn : num ≠ 0) :
    ∃ a, elfStrTabAddr T es (le32 T 16) = .ok a := by
  have hsh := ((open_ok (by omega) h).2.2.2).resolve_left hn
  rw [Nat.succ_mul] at hsh
  unfold elfStrTabAddr
  rcases hes with e | e <;> subst e
  · rw [if_pos rfl]; exact ⟨_, rd32_ok (by omega)⟩
  · rw [if_neg (by decide), if_pos rfl]; exact ⟨_, rd64_ok (by omega)⟩

/-! Non-vacuity -/
example : elfOpen ([9,0,0,0, 60,0,0,0, 1,0,0,0, 40,0,0,0, 0,0,0,0] ++ List.replicate 44 1) ⟨0, 60, 64, 40⟩ = .ok (1, 40) := by decide
example : elfOpen ([9,0,0,0, 60,0,0,0, 5,0,0,0, 40,0,0,0, 0,0,0,0] ++ List.replicate 44 1) ⟨0, 60, 64, 40⟩ = .panic := by decide

end Mb2.C19
