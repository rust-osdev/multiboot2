/-
  SOURCE = MODEL for the constructors of the fixed-size tags of both crates.

  The translated body of `new()` / `default()` (a struct literal, reordered into the struct's declaration order by the
  translator) evaluates to  ((type, size), field values in struct order).  The theorems state: the type is the kind's number
  (through `Tag::ID`, resolved by the translator) resp. the kind's `HeaderTagType` variant, the size is the model's UNPADDED
  fixed size (`(Kind.desc k).fixed`, the value `sized_ctor_exact` / `sized_hctor_exact` are about), and the i-th field in
  struct order is the i-th argument - for all argument values. A swapped pair of same-width arguments, a padded size
  constant or a wrong ID breaks the obligation of that constructor.
-/
import Mb2.Props.FnsBase
open Mb2 Mb2.Rir

namespace Mb2.Fns

/-- right-nested pairs -/
def tuple : List V → V
  | [] => .unit
  | [a] => a
  | a :: rest => .pair a (tuple rest)

def mbiHdrV (typ size : Nat) : V := .pair (.lit typ) (.int .u32 size)
def hHdrV (typ : String) (flags : V) (size : Nat) : V := .pair (.c0 typ) (.pair flags (.int .u32 size))

theorem ctor_apm_eq (p : Profile) (a0 a1 a2 a3 a4 a5 a6 a7 a8 : V) :
    evalO p [a0, a1, a2, a3, a4, a5, a6, a7, a8] Gen.Fns.ctor_apm = some (.ok (.pair (mbiHdrV (Kind.typ .apm) (Kind.desc .apm).fixed) (tuple [a0, a1, a2, a3, a4, a5, a6, a7, a8]))) := rfl

theorem ctor_meminfo_eq (p : Profile) (a0 a1 : V) :
    evalO p [a0, a1] Gen.Fns.ctor_meminfo = some (.ok (.pair (mbiHdrV (Kind.typ .meminfo) (Kind.desc .meminfo).fixed) (tuple [a0, a1]))) := rfl

theorem ctor_bootdev_eq (p : Profile) (a0 a1 a2 : V) :
    evalO p [a0, a1, a2] Gen.Fns.ctor_bootdev = some (.ok (.pair (mbiHdrV (Kind.typ .bootdev) (Kind.desc .bootdev).fixed) (tuple [a0, a1, a2]))) := rfl

theorem ctor_efi32_eq (p : Profile) (a0 : V) :
    evalO p [a0] Gen.Fns.ctor_efi32 = some (.ok (.pair (mbiHdrV (Kind.typ .efiSdt32) (Kind.desc .efiSdt32).fixed) (tuple [a0]))) := rfl

theorem ctor_efi64_eq (p : Profile) (a0 : V) :
    evalO p [a0] Gen.Fns.ctor_efi64 = some (.ok (.pair (mbiHdrV (Kind.typ .efiSdt64) (Kind.desc .efiSdt64).fixed) (tuple [a0]))) := rfl

theorem ctor_ih32_eq (p : Profile) (a0 : V) :
    evalO p [a0] Gen.Fns.ctor_ih32 = some (.ok (.pair (mbiHdrV (Kind.typ .efiIh32) (Kind.desc .efiIh32).fixed) (tuple [a0]))) := rfl

theorem ctor_ih64_eq (p : Profile) (a0 : V) :
    evalO p [a0] Gen.Fns.ctor_ih64 = some (.ok (.pair (mbiHdrV (Kind.typ .efiIh64) (Kind.desc .efiIh64).fixed) (tuple [a0]))) := rfl

theorem ctor_efibs_eq (p : Profile) :
    evalO p [] Gen.Fns.ctor_efibs = some (.ok (mbiHdrV (Kind.typ .efiBs) (Kind.desc .efiBs).fixed)) := rfl

theorem ctor_loadbase_eq (p : Profile) (a0 : V) :
    evalO p [a0] Gen.Fns.ctor_loadbase = some (.ok (.pair (mbiHdrV (Kind.typ .loadBase) (Kind.desc .loadBase).fixed) (tuple [a0]))) := rfl

theorem ctor_end_eq (p : Profile) :
    evalO p [] Gen.Fns.ctor_end = some (.ok (mbiHdrV (Kind.typ .end_) (Kind.desc .end_).fixed)) := rfl

theorem ctor_rsdp1_eq (p : Profile) (a0 a1 a2 a3 a4 : V) :
    evalO p [a0, a1, a2, a3, a4] Gen.Fns.ctor_rsdp1 = some (.ok (.pair (mbiHdrV (Kind.typ .rsdp1) (Kind.desc .rsdp1).fixed) (tuple [a0, a1, a2, a3, a4]))) := rfl

theorem ctor_rsdp2_eq (p : Profile) (a0 a1 a2 a3 a4 a5 a6 a7 a8 : V) :
    evalO p [a0, a1, a2, a3, a4, a5, a6, a7, a8] Gen.Fns.ctor_rsdp2 = some (.ok (.pair (mbiHdrV (Kind.typ .rsdp2) (Kind.desc .rsdp2).fixed) (tuple [a0, a1, a2, a3, a4, a5, a6, a7, a8]))) := rfl

theorem ctor_vbe_eq (p : Profile) (a0 a1 a2 a3 a4 a5 : V) :
    evalO p [a0, a1, a2, a3, a4, a5] Gen.Fns.ctor_vbe = some (.ok (.pair (mbiHdrV (Kind.typ .vbe) (Kind.desc .vbe).fixed) (tuple [a0, a1, a2, a3, a4, a5]))) := rfl

theorem ctor_h_address_eq (p : Profile) (a0 a1 a2 a3 a4 : V) :
    evalO p [a0, a1, a2, a3, a4] Gen.Fns.ctor_h_address = some (.ok (.pair (hHdrV "HeaderTagType::Address" a0 (HKind.desc .address).fixed) (tuple [a1, a2, a3, a4]))) := rfl

theorem ctor_h_console_eq (p : Profile) (a0 a1 : V) :
    evalO p [a0, a1] Gen.Fns.ctor_h_console = some (.ok (.pair (hHdrV "HeaderTagType::ConsoleFlags" a0 (HKind.desc .console).fixed) (tuple [a1]))) := rfl

theorem ctor_h_end_eq (p : Profile) :
    evalO p [] Gen.Fns.ctor_h_end = some (.ok (hHdrV "HeaderTagType::End" (.c0 "HeaderTagFlag::Required") (HKind.desc .end_).fixed)) := rfl

theorem ctor_h_entry_eq (p : Profile) (a0 a1 : V) :
    evalO p [a0, a1] Gen.Fns.ctor_h_entry = some (.ok (.pair (hHdrV "HeaderTagType::EntryAddress" a0 (HKind.desc .entry).fixed) (tuple [a1]))) := rfl

theorem ctor_h_efi32_eq (p : Profile) (a0 a1 : V) :
    evalO p [a0, a1] Gen.Fns.ctor_h_efi32 = some (.ok (.pair (hHdrV "HeaderTagType::EntryAddressEFI32" a0 (HKind.desc .efi32).fixed) (tuple [a1]))) := rfl

theorem ctor_h_efi64_eq (p : Profile) (a0 a1 : V) :
    evalO p [a0, a1] Gen.Fns.ctor_h_efi64 = some (.ok (.pair (hHdrV "HeaderTagType::EntryAddressEFI64" a0 (HKind.desc .efi64).fixed) (tuple [a1]))) := rfl

theorem ctor_h_fb_eq (p : Profile) (a0 a1 a2 a3 : V) :
    evalO p [a0, a1, a2, a3] Gen.Fns.ctor_h_fb = some (.ok (.pair (hHdrV "HeaderTagType::Framebuffer" a0 (HKind.desc .fb).fixed) (tuple [a1, a2, a3]))) := rfl

theorem ctor_h_modalign_eq (p : Profile) (a0 : V) :
    evalO p [a0] Gen.Fns.ctor_h_modalign = some (.ok (hHdrV "HeaderTagType::ModuleAlign" a0 (HKind.desc .modalign).fixed)) := rfl

theorem ctor_h_efibs_eq (p : Profile) (a0 : V) :
    evalO p [a0] Gen.Fns.ctor_h_efibs = some (.ok (hHdrV "HeaderTagType::EfiBS" a0 (HKind.desc .efibs).fixed)) := rfl

theorem ctor_h_reloc_eq (p : Profile) (a0 a1 a2 a3 a4 : V) :
    evalO p [a0, a1, a2, a3, a4] Gen.Fns.ctor_h_reloc = some (.ok (.pair (hHdrV "HeaderTagType::Relocatable" a0 (HKind.desc .reloc).fixed) (tuple [a1, a2, a3, a4]))) := rfl

end Mb2.Fns
