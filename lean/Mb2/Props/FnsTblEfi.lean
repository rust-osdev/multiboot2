/-
  The impl blocks (as tables, see `FnsTblLookup.lean`) of multiboot2/src/memory_map.rs - `Iterator for EFIMemoryAreaIter`,
  `EFIMemoryMapTag`, `MemoryMapTag`, `MemoryArea` - and of `EFIBootServicesNotExitedTag` (efi.rs).
-/

import Mb2.Props.FnsTblLookup
import Mb2.Props.FnsCtor
open Mb2 Mb2.Rir

namespace Mb2.Fns


-- BEGIN TABLES (generated once by a script from the unchanged tree, then REVIEWED row by row)
theorem tbl_efi_iter_eq : Gen.Fns.tbl_efi_iter = some [
  ("next->Option<&'aEFIMemoryDesc>", "covered", none, [], []),
  ("size_hint->(usize,Option<usize>)", "ir", some (.letIn 101 (.bin .sub (.var 0) (.var 1)) (.pair (.var 101) (.c1 "Some" (.var 101)))), ["self.entries", "self.i"], [])] := rfl

theorem tbl_efi_tag_eq : Gen.Fns.tbl_efi_tag = some [
  ("new_from_descs->Box<Self>", "ir", some (.letIn 101 (.var 0) (.var 1)), ["slice::from_raw_parts(ptr,len)", "Self::new_from_map(size_of::<EFIMemoryDesc>()as u32,EFIMemoryDesc::VERSION,efi_mmap,)"], ["let ptr=descs.as_ptr().cast::<u8>()", "let len=size_of_val(descs)"]),
  ("new_from_map->Box<Self>", "ir", some (.letIn 101 (.pair (.lit 17) (.cast (.lit 0) .u32)) (.ite (.bin .ne (.var 0) (.lit 0)) (.c1 "new_boxed" (.pair (.var 101) (.pair (.var 1) (.pair (.var 2) (.var 3))))) .panic)), ["desc_size", "desc_size.to_ne_bytes()", "desc_version.to_ne_bytes()", "efi_mmap"], ["let desc_size=desc_size.to_ne_bytes()", "let desc_version=desc_version.to_ne_bytes()"]),
  ("memory_areas->EFIMemoryAreaIter", "covered", none, [], [])] := rfl

theorem tbl_mmap_tag_eq : Gen.Fns.tbl_mmap_tag = some [
  ("new->Box<Self>", "ir", some (.letIn 101 (.pair (.lit 6) (.cast (.lit 0) .u32)) (.letIn 102 (.var 0) (.c1 "new_boxed" (.pair (.var 101) (.pair (.var 1) (.pair (.var 2) (.var 102))))))), ["slice::from_raw_parts(ptr,len)", "(size_of::<MemoryArea>()as u32).to_ne_bytes()", "0_u32.to_ne_bytes()"], ["let entry_size=(size_of::<MemoryArea>()as u32).to_ne_bytes()", "let entry_version=0_u32.to_ne_bytes()", "let ptr=areas.as_ptr().cast::<u8>()", "let len=size_of_val(areas)"]),
  ("entry_size->u32", "ir", some (.var 0), ["self.entry_size"], []),
  ("entry_version->u32", "ir", some (.var 0), ["self.entry_version"], []),
  ("memory_areas->&[MemoryArea]", "covered", none, [], [])] := rfl

theorem tbl_memory_area_eq : Gen.Fns.tbl_memory_area = some [
  ("new->Self", "ir", some (.pair (.var 0) (.pair (.var 1) (.pair (.var 2) (.lit 0)))), ["base_addr", "length", "typ.into()"], []),
  ("start_address->u64", "ir", some (.var 0), ["self.base_addr"], []),
  ("end_address->u64", "covered", none, [], []),
  ("size->u64", "ir", some (.var 0), ["self.length"], []),
  ("typ->MemoryAreaTypeId", "ir", some (.var 0), ["self.typ"], [])] := rfl

theorem tbl_efibs_eq : Gen.Fns.tbl_efibs = some [
  ("new->Self", "ir", some (.var 0), ["Self::default()"], [])] := rfl

-- END TABLES

/-! ### what the pinned rows mean -/

/-- `size_hint()` = `(entries - i, Some(entries - i))` = the model's `EfiIter.len`, never a panic while `i <= entries` -/
theorem efi_iter_size_hint_eq (p : Profile) (it : EfiIter) (h : it.i ≤ it.entries) :
    evalO p [.int .usize it.entries, .int .usize it.i] (tblRow Gen.Fns.tbl_efi_iter "size_hint->(usize,Option<usize>)") =
      some (.ok (.pair (.int .usize it.len) (.c1 "Some" (.int .usize it.len)))) := by
  rw [tbl_efi_iter_eq, tblRow_tail (by decide), tblRow_head]
  simp only [rir, usub_ok p W64 _ _ h, EfiIter.len]

/-- `EFIMemoryMapTag::new_from_map`: panics on a zero descriptor size, else header (type 17) and the content slices in
    the order of the struct: descriptor size, descriptor version, map bytes -/
theorem efi_new_from_map_eq (p : Profile) (d : Nat) (ds dv m : V) :
    evalO p [.int .u32 d, ds, dv, m] (tblRow Gen.Fns.tbl_efi_tag "new_from_map->Box<Self>") =
      some (if d ≠ 0 then .ok (.c1 "new_boxed" (.pair (mbiHdrV (Kind.typ .efiMmap) 0) (.pair ds (.pair dv m)))) else .panic) ∧
    tblVars Gen.Fns.tbl_efi_tag "new_from_map->Box<Self>" =
      ["desc_size", "desc_size.to_ne_bytes()", "desc_version.to_ne_bytes()", "efi_mmap"] := by
  rw [tbl_efi_tag_eq, tblRow_tail (by decide), tblVars_tail (by decide), tblRow_head, tblVars_head]
  exact ⟨congrArg some (cond_decide ..), rfl⟩

/-- `MemoryMapTag::new`: header (type 6), then entry size (`size_of::<MemoryArea>()`), entry version 0, the areas -/
theorem mmap_new_eq (p : Profile) (areas es ev : V) :
    evalO p [areas, es, ev] (tblRow Gen.Fns.tbl_mmap_tag "new->Box<Self>") =
      some (.ok (.c1 "new_boxed" (.pair (mbiHdrV (Kind.typ .mmap) 0) (.pair es (.pair ev areas))))) ∧
    tblVars Gen.Fns.tbl_mmap_tag "new->Box<Self>" =
      ["slice::from_raw_parts(ptr,len)", "(size_of::<MemoryArea>()as u32).to_ne_bytes()", "0_u32.to_ne_bytes()"] := by
  rw [tbl_mmap_tag_eq, tblRow_head, tblVars_head]
  exact ⟨rfl, rfl⟩

end Mb2.Fns
