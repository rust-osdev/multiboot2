/-
  C07 — Every tag constructor emits the spec-exact binary image.
  `C07Parts`: type / size / length facts of every constructor; `C07More`: byte-exact images and accessor read-back for all
  argument values; `Layout`: the source-derived ID and layout facts.
-/
import Mb2.Props.C07Parts
import Mb2.Props.C07More
-- registered under C07 in `Props/INDEX.json`: the check audits them through this module; nothing below uses them
import Mb2.Props.FnsTblFixed
import Mb2.Props.FnsTblMbi
import Mb2.Props.FnsTblHdr
import Mb2.Props.FnsTblTags
import Mb2.Props.FnsTblElf
import Mb2.Props.FnsTblEfi
import Mb2.Props.FnsGetters
import Mb2.Props.FnsBoxedCtor
import Mb2.Props.FnsCast
import Mb2.Props.FnsCtor
import Mb2.Props.Layout
