/-
  Source TEXT pinned: the getter / iterator entry points that are closure pipelines; then the method sets of the trait impls.

  `tags()`, `iter()`, `module_tags()`, `get_tag` of both crates, `ModuleIter::next`, `framebuffer_tag()` and
  `efi_memory_map_tag()` consist of one `find` / `map` / `map_or_else` expression whose meaning lives in closures; the
  translator emits the normalised token text of these bodies (`Gen.Fns.*_text`, string literals blanked) and the theorems below
  PIN it: these functions are, textually, the selection rules the model implements -

    get_tag        = first tag of the walk whose type equals `T::ID`, cast            (model: `getTag` / `hgetTag`, `find?`)
    tags / iter    = the tag iterator over exactly the payload                         (model: `tagsOf` on the area)
    module_tags    = the module iterator over `tags()`;  next = find type Module, cast (model: `moduleViews`)
    framebuffer_tag     = the FIRST framebuffer tag, `Err` when ITS type byte is unknown
    efi_memory_map_tag  = withheld while a boot-services-not-exited tag is present     (model: `efiMemoryMapTag`)

  Pinned in the same way: `elf_sections()` (the assertion in front of `sections()`), `parse_slice_as_string` and the three
  string getters that hand it their tail, the RSDP v1 checksum. A rewrite of one of these one-liners - harmless or not - breaks
  the obligation, and the check then decides with the correspondence whether a failing input exists. A text the translator
  could not derive (`none`) satisfies its pin: lost coverage, which only the evidence of the check shows (see `FnsBase.lean`).
  Source text is pinned elsewhere too: four bodies of multiboot2-common in `FnsCast`, the effects and the loop of `new_boxed`
  in `FnsBoxed`, the pointer expressions of `has_valid_end_tag` / `ref_from_ptr` (their `_aliases`), and the input lists
  (`tblVars`) of the table modules.

  The second section compares, for the traits whose default methods the model relies on (`Iterator`, `ExactSizeIterator`,
  `Header`, `MaybeDynSized`, `Default`), which functions each impl defines; there an underivable list fails the theorems.
-/
import Mb2.Gen.Fns
namespace Mb2.Fns

def pinned (g : Option String) (e : String) : Bool :=
  match g with
  | none => true
  | some s => s == e

/-- A pin holds when the text, if the translator derived one, IS the expected one. Used as `pinned_of_getD rfl`, both for a
    derived text and for `none`: the kernel then compares the two literals as they stand, and a pin proved this way evaluates
    no string (`decide` on `==` encodes both sides to UTF-8 bytes, quadratic in the length: tolerable for the short names of
    the second section, not for a body). -/
theorem pinned_of_getD {g : Option String} {e : String} (h : g.getD e = e) : pinned g e = true := by
  cases g with
  | none => rfl
  | some s => exact beq_iff_eq.2 h

theorem mbi_get_tag_is_first_match :
    pinned Gen.Fns.mbi_get_tag_text "{self.tags().find(|tag|tag.header().typ==T::ID).map(|tag|tag.cast::<T>())}" = true := pinned_of_getD rfl

theorem hdr_get_tag_is_first_match :
    pinned Gen.Fns.hdr_get_tag_text "{self.iter().find(|tag|tag.header().typ()==T::ID).map(|tag|tag.cast::<T>())}" = true := pinned_of_getD rfl

theorem mbi_tags_is_payload_walk : pinned Gen.Fns.mbi_tags_text "{TagIter::new(self.0.payload())}" = true := pinned_of_getD rfl
theorem hdr_iter_is_payload_walk : pinned Gen.Fns.hdr_iter_text "{TagIter::new(self.0.payload())}" = true := pinned_of_getD rfl
theorem mbi_module_tags_is_module_iter : pinned Gen.Fns.mbi_module_tags_text "{module::module_iter(self.tags())}" = true := pinned_of_getD rfl
theorem module_iter_next_is_find_module :
    pinned Gen.Fns.module_iter_next_text "{self.iter.find(|tag|tag.header().typ==TagType::Module).map(|tag|tag.cast())}" = true := pinned_of_getD rfl

theorem mbi_framebuffer_tag_is_first :
    pinned Gen.Fns.mbi_framebuffer_tag_text
      "{self.get_tag::<FramebufferTag>().map(|tag|match tag.buffer_type(){Ok(_)=>Ok(tag),Err(e)=>Err(e),})}" = true := pinned_of_getD rfl

theorem mbi_efi_memory_map_tag_withheld :
    pinned Gen.Fns.mbi_efi_memory_map_tag_text
      "{self.get_tag::<EFIBootServicesNotExitedTag>().map_or_else(||self.get_tag::<EFIMemoryMapTag>(),|_tag|{log::debug!(\"...\");None})}" = true := pinned_of_getD rfl

theorem mbi_elf_sections_is_guarded_sections :
    pinned Gen.Fns.mbi_elf_sections_text
      "{let tag=self.get_tag::<ElfSectionsTag>();tag.map(|t|{assert!((t.entry_size()as u64*t.shndx()as u64)<=t.header().size as u64);t.sections()})}" = true := pinned_of_getD rfl

/-- text before the first NUL of exactly the slice handed in, then UTF-8 validation (`parseStr`) -/
theorem parse_slice_as_string_is_cstr_then_utf8 :
    pinned Gen.Fns.parse_slice_as_string_text
      "{let cstr=core::ffi::CStr::from_bytes_until_nul(bytes).map_err(StringError::MissingNul)?;cstr.to_str().map_err(StringError::Utf8)}" = true := pinned_of_getD rfl

/-- the three string accessors parse exactly the tag's unsized tail (whose length is `dst_len`, i.e. the declared size) -/
theorem cmdline_get_parses_tail : pinned Gen.Fns.cmdline_get_text "{parse_slice_as_string(&self.cmdline)}" = true := pinned_of_getD rfl
theorem loader_name_get_parses_tail : pinned Gen.Fns.loader_name_get_text "{parse_slice_as_string(&self.name)}" = true := pinned_of_getD rfl
theorem module_cmdline_get_parses_tail : pinned Gen.Fns.module_cmdline_get_text "{parse_slice_as_string(&self.cmdline)}" = true := pinned_of_getD rfl

/-- RSDP v1: the byte sum over `[8, 8 + 20)` of the tag (every byte, revision included) must be 0 -/
theorem rsdp1_checksum_sums_20_bytes :
    pinned Gen.Fns.rsdp1_checksum_text
      "{let bytes=unsafe{slice::from_raw_parts(self as*const _ as*const u8,RSDPV1_LENGTH+8)};bytes[8..].iter().fold(0u8,|acc,val|acc.wrapping_add(*val))==0}" = true := pinned_of_getD rfl

/-! ### method sets of the trait impls

  An `impl Iterator for X` that gains an `nth` / `last` / `count` override, a `Header` impl that gains or loses a
  `total_size` override, a `MaybeDynSized` impl that overrides `payload` / `as_bytes`: behaviour changes although no translated
  body does. The generated `trait_impls` lists, for every impl of these traits in the three crates, the functions and
  constants it defines. -/

def implsOf (tr : String) : List (String × List String) :=
  match Gen.Fns.trait_impls with
  | none => []
  | some l => (l.filter (fun x => x.1 == tr)).map (fun x => (x.2.1, x.2.2))

/-- the list must have been derived: an underivable list FAILS the theorems below (as an untranslatable body fails its
    `*_eq` theorem) instead of making them vacuous -/
def implsKnown : Bool := Gen.Fns.trait_impls.isSome

/-- the iterators implement `next` (and `size_hint` where the model has `len`) and NOTHING else: every other route through the
    `Iterator` API is the standard library's default in terms of `next` -/
theorem iterator_impls_only_next :
    (implsKnown && implsOf "Iterator" ==
      [("EFIMemoryAreaIter", ["next", "size_hint"]), ("ElfSectionIter", ["next", "size_hint"]), ("ModuleIter", ["next"]),
       ("TagIter", ["next"])]) = true := by decide +kernel

theorem exact_size_impls :
    (implsKnown && (implsOf "ExactSizeIterator" == [("EFIMemoryAreaIter", ["len"]), ("ElfSectionIter", ["len"])] &&
      implsOf "DoubleEndedIterator" == [] && implsOf "FusedIterator" == [])) = true := by decide +kernel

/-- which header kinds override `total_size` (the two structure headers return the declared word; the tag headers use the
    default `size_of + payload_len`) -/
theorem header_impls :
    (implsKnown && implsOf "Header" ==
      [("BootInformationHeader", ["payload_len", "set_size", "total_size"]), ("DummyTestHeader", ["payload_len", "set_size"]),
       ("HeaderTagHeader", ["payload_len", "set_size"]), ("Multiboot2BasicHeader", ["payload_len", "set_size", "total_size"]),
       ("TagHeader", ["payload_len", "set_size"])]) = true := by decide +kernel

/-- no tag type overrides `header` / `payload` / `as_bytes` / `as_ptr`: each `MaybeDynSized` impl defines exactly
    `BASE_SIZE` and `dst_len` -/
theorem maybe_dyn_sized_impls_minimal :
    (implsKnown && (implsOf "MaybeDynSized").all (fun x => x.2 == ["const BASE_SIZE", "dst_len"])) = true := by decide +kernel

theorem default_impls :
    (implsKnown && implsOf "Default" ==
      [("Builder", ["default"]), ("EFIBootServicesNotExitedTag", ["default"]), ("EndHeaderTag", ["default"]), ("EndTag", ["default"]),
       ("VBEControlInfo", ["default"]), ("VBEModeInfo", ["default"])]) = true := by decide +kernel

end Mb2.Fns
