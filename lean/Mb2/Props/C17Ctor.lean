/-
  C17, constructor → tag → accessor, end to end: for EVERY string without a NUL byte the three string constructors emit a
  tag (`C07.string_ctor_no_nul`, `C07.module_ctor`) from which the accessor - a checked slice `[fixed, size)` of the tag's
  declared bytes followed by `parse_slice_as_string` (the model's `parseStr`) - reads back exactly that string.
-/
import Mb2.Props.C17Parts
import Mb2.Props.C07More
import Mb2.Sweep
namespace Mb2.C17
open Mb2 Sweep

/-- the accessor's slice of a tag image `hdr ++ pre ++ text ++ [0]` whose fixed part is `hdr ++ pre` -/
theorem text_slice (T fixedPart text : Bytes) (v : View) (size : Nat)
    (hsz : size = fixedPart.length + text.length + 1) (hv : v.size = size) (hn : v.n = size - fixedPart.length)
    (hT : T.take size = fixedPart ++ text ++ [0]) :
    rdSlice (declared T v) fixedPart.length v.n = .ok (text ++ [0]) := by
  have hl : (fixedPart ++ (text ++ [0])).length = size := by simp; omega
  rw [declared, hv, hT, hn, List.append_assoc, rdSlice_ok (by omega), slice, List.drop_left,
    List.take_of_length_le (by simp; omega)]

/-- The accessor side of the round trip, behind any fixed part of `fixed` bytes (header, and for the module tag start and
    end): the checked slice `[fixed, size)` of the tag holds the text and its NUL, and parsing it gives the text back. -/
theorem text_readback (s : String) (hs : ∀ b ∈ s.toUTF8.data.toList, b ≠ 0) (T fixedPart : Bytes) (v : View)
    (fixed size : Nat) (hfixed : fixedPart.length = fixed) (hsz : size = fixed + s.toUTF8.data.toList.length + 1) (hv : v.size = size)
    (hn : v.n = size - fixed) (hT : T.take size = fixedPart ++ s.toUTF8.data.toList ++ [0]) :
    rdSlice (declared T v) fixed v.n = .ok (s.toUTF8.data.toList ++ [0]) ∧
    parseStr (s.toUTF8.data.toList ++ [0]) = .ok s.toUTF8.data.toList.length ∧
    (s.toUTF8.data.toList ++ [0]).take s.toUTF8.data.toList.length = s.toUTF8.data.toList := by
  subst hfixed
  have hr := roundtrip s [] hs
  rw [hr.2.2, List.append_nil] at hr
  exact ⟨text_slice T fixedPart _ v size hsz hv hn hT, hr.1, hr.2.1⟩

/-- **Round trip through constructor and accessor.** `s` ranges over Lean `String` (valid UTF-8 by construction, like
    Rust's `&str`); `name` is one of the two plain string tags. The constructed tag has size 8 + |s| + 1, stores exactly
    one NUL behind the text, and wherever its bytes sit (`T` = the tag's bytes in a loaded region, `v` the typed view with
    the tail length the cast computes) the accessor returns the text `s` at offset 8. -/
theorem string_tag_roundtrip (p : Profile) (name : String) (typ : Nat)
    (hname : (name = "cmdline" ∧ typ = 1) ∨ (name = "loader" ∧ typ = 2))
    (s : String) (hs : ∀ b ∈ s.toUTF8.data.toList, b ≠ 0) (hlen : s.toUTF8.data.toList.length < 2^61) :
    ∃ img, ctorImpl p name s.toUTF8.data.toList = .ok img ∧ img.typ = typ ∧ img.size = 8 + s.toUTF8.data.toList.length + 1 ∧
      img.bytes = mbiHdr typ img.size ++ s.toUTF8.data.toList ++ [0] ∧
      ∀ (T : Bytes) (v : View), v.size = img.size → v.n = img.size - 8 → T.take img.size = img.bytes →
        rdSlice (declared T v) 8 v.n = .ok (s.toUTF8.data.toList ++ [0]) ∧
        parseStr (s.toUTF8.data.toList ++ [0]) = .ok s.toUTF8.data.toList.length ∧
        (s.toUTF8.data.toList ++ [0]).take s.toUTF8.data.toList.length = s.toUTF8.data.toList :=
  ⟨_, C07.string_ctor_no_nul p name typ hname _ hs hlen, rfl, rfl, rfl, fun T v =>
    text_readback s hs T (mbiHdr typ _) v 8 _ (hfixed := mbiHdr_length ..) (hsz := rfl)⟩

/-- the same for `ModuleTag::new(start, end, s)` with `start < end`: the text sits at offset 16 -/
theorem module_tag_roundtrip (p : Profile) (se : Bytes) (hse : se.length = 8) (hord : le32 se 4 > le32 se 0)
    (s : String) (hs : ∀ b ∈ s.toUTF8.data.toList, b ≠ 0) (hlen : s.toUTF8.data.toList.length < 2^60) :
    ∃ img, ctorImpl p "module" (se ++ s.toUTF8.data.toList) = .ok img ∧ img.typ = 3 ∧
      img.size = 16 + s.toUTF8.data.toList.length + 1 ∧
      img.bytes = mbiHdr 3 img.size ++ se ++ s.toUTF8.data.toList ++ [0] ∧
      ∀ (T : Bytes) (v : View), v.size = img.size → v.n = img.size - 16 → T.take img.size = img.bytes →
        rdSlice (declared T v) 16 v.n = .ok (s.toUTF8.data.toList ++ [0]) ∧
        parseStr (s.toUTF8.data.toList ++ [0]) = .ok s.toUTF8.data.toList.length ∧
        (s.toUTF8.data.toList ++ [0]).take s.toUTF8.data.toList.length = s.toUTF8.data.toList := by
  have hd : (se ++ s.toUTF8.data.toList).drop 8 = s.toUTF8.data.toList := hse ▸ List.drop_left
  have ht : (se ++ s.toUTF8.data.toList).take 8 = se := hse ▸ List.take_left
  have hl : (se ++ s.toUTF8.data.toList).length = 8 + s.toUTF8.data.toList.length := by rw [List.length_append, hse]
  have hm : ctorImpl p "module" (se ++ s.toUTF8.data.toList) =
      .ok ⟨3, none, 16 + s.toUTF8.data.toList.length + 1,
        mbiHdr 3 (16 + s.toUTF8.data.toList.length + 1) ++ se ++ s.toUTF8.data.toList ++ [0],
        roundUp8 (16 + s.toUTF8.data.toList.length + 1)⟩ := by
    have := C07.module_ctor p (se ++ s.toUTF8.data.toList) (by omega) (by rw [hd]; exact hs) (by omega)
    rwa [le32_append_left _ _ 4 (by omega), le32_append_left _ _ 0 (by omega), if_neg (not_not_intro hord), hd, ht, hl,
      show 16 + (8 + s.toUTF8.data.toList.length - 8) + 1 = 16 + s.toUTF8.data.toList.length + 1 by omega] at this
  have hfixed : (mbiHdr 3 (16 + s.toUTF8.data.toList.length + 1) ++ se).length = 16 := by
    rw [List.length_append, mbiHdr_length, hse]
  exact ⟨_, hm, rfl, rfl, rfl, fun T v hv hn hT => text_readback s hs T _ v 16 _ hfixed rfl hv hn hT⟩

end Mb2.C17
