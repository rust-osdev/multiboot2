/-
  C14 — Raw bytes become a structure only when aligned, padded and size-consistent.
  Property theorems only; helper lemmas live in Mb2/Lemmas.
-/
import Mb2.Spec
import Mb2.Lemmas.Arith
import Mb2.Lemmas.Bits
import Mb2.Lemmas.Common
-- registered under C14 in `Props/INDEX.json`: the check audits them through this module; nothing below uses them
import Mb2.Props.FnsTblMbi
import Mb2.Props.FnsLinked
import Mb2.Props.FnsGetters
import Mb2.Props.FnsAlign
import Mb2.Props.FnsBytesRef
import Mb2.Props.FnsTagHdr
import Mb2.Props.FnsHtHdr
import Mb2.Props.FnsBiHdr
import Mb2.Props.FnsHbHdr
namespace Mb2.C14
open Mb2

/-- Main refinement: for every profile, header kind, slice address and slice contents (any length a Rust slice
    can have), the modelled `ref_from_slice` produces an outcome the specification admits: the four errors in the
    stated precedence, success only when the declared size fits, and for a declaration below the header size
    never more than the header (panic, error, or an empty payload). -/
theorem refFromSlice_meets_spec (p : Profile) (k : HK) (addr : Nat) (bytes : Bytes)
    (hlen : bytes.length < 2^63) :
    (Spec.refFromSlice k addr bytes).admits (refFromSlice p k addr bytes) = true := by
  -- the three checks of `BytesRef::try_from` are the specification's: compared branch by branch, their negations remain
  simp only [refFromSlice_eq, Spec.refFromSlice, Expect.admits_ite, Expect.admits_exactly, ite_eq_left_iff]
  intro h1 _ _
  generalize le32 bytes k.sizeOff = d
  generalize bytes.length = L at *
  -- what is left: the specification's decisions on the declared size against the model's guard on `payload_len`
  show (if d > L then Expect.exactly (.ok (.error MemErr.invalidReportedTotalSize))
        else if d < k.hsize then .rejectedOr 0 else .exactly (.ok (.ok (d - k.hsize)))).admits
      (payloadLen p k d >>= fun pl =>
        if pl > L - k.hsize then .ok (.error MemErr.invalidReportedTotalSize) else .ok (.ok pl) : Res (Ex MemErr Nat)) = true
  -- in each case the first `rw` decides the specification, the second runs the model
  by_cases hB : d > L
  · rw [if_pos hB]
    rw [payloadLen_ge p k d (by omega), Res.bind_ok, if_pos (by omega)]
    exact Expect.admits_exactly _
  · by_cases hA : d < k.hsize
    · rw [if_neg hB, if_pos hA]
      rcases payloadLen_lt p k d hA with h | ⟨_, h⟩ | ⟨x, h, hx, _⟩ <;> rw [h]
      · rfl
      · rw [Res.bind_ok, if_neg (by omega)]; rfl
      · rw [Res.bind_ok, if_pos (by omega)]; rfl
    · rw [if_neg hB, if_neg hA]
      rw [payloadLen_ge p k d (by omega), Res.bind_ok, if_neg (by omega)]
      exact Expect.admits_exactly _

/-- Success happens only for a slice that is header-sized, aligned, padded and large enough for the declaration. -/
theorem success_only_if (p : Profile) (k : HK) (addr : Nat) (bytes : Bytes) (pl : Nat)
    (hlen : bytes.length < 2^63)
    (h : refFromSlice p k addr bytes = .ok (.ok pl)) :
    bytes.length ≥ k.hsize ∧ addr % 8 = 0 ∧ bytes.length % 8 = 0 ∧
    (le32 bytes k.sizeOff ≤ bytes.length) ∧
    (le32 bytes k.sizeOff ≥ k.hsize → pl = le32 bytes k.sizeOff - k.hsize) ∧
    (le32 bytes k.sizeOff < k.hsize → pl = 0) := by
  have hs := refFromSlice_meets_spec p k addr bytes hlen
  rw [h] at hs
  revert hs
  -- of the specification's six cases only the last two admit a success
  fun_cases Spec.refFromSlice k addr bytes <;> intro hs <;> simp [Expect.admits, Out.isRejection] at hs
  · replace hs : pl = 0 := hs
    exact ⟨by omega, by omega, by omega, by omega, by omega, fun _ => hs⟩
  · replace hs : pl = le32 bytes k.sizeOff - k.hsize := hs
    exact ⟨by omega, by omega, by omega, by omega, fun _ => hs, by omega⟩

/-- On success with a declaration of at least the header size, the in-memory size of the structure is the declared
    size rounded up to 8 and never more than the slice. -/
theorem success_size (p : Profile) (k : HK) (addr : Nat) (bytes : Bytes) (pl : Nat)
    (hlen : bytes.length < 2^63)
    (h : refFromSlice p k addr bytes = .ok (.ok pl)) (hd : le32 bytes k.sizeOff ≥ k.hsize) :
    dynSizeOfVal k pl = roundUp8 (le32 bytes k.sizeOff) ∧ dynSizeOfVal k pl ≤ bytes.length := by
  obtain ⟨-, -, hpad, hfit, hpl, -⟩ := success_only_if p k addr bytes pl hlen h
  have e : k.hsize + pl = le32 bytes k.sizeOff := by have := hpl hd; omega
  unfold dynSizeOfVal
  rw [e]
  exact ⟨rfl, roundUp8_least _ _ hpad hfit⟩

/-- Rounding: a multiple of 8, not below the argument, and the least such. -/
theorem roundUp8_spec (n : Nat) :
    roundUp8 n % 8 = 0 ∧ n ≤ roundUp8 n ∧ ∀ m, m % 8 = 0 → n ≤ m → roundUp8 n ≤ m :=
  ⟨roundUp8_mod n, roundUp8_ge n, roundUp8_least n⟩

/-- The modelled `increase_to_alignment` never panics below 2^64 − 7 and equals `roundUp8` in both profiles. -/
theorem incAlign_total (p : Profile) (n : Nat) (h : n + 7 < 2^64) : incAlign p n = .ok (roundUp8 n) :=
  incAlign_eq p n (by rw [W64_eq]; exact h)

/-- The code's bit-level formula `(n + 7) & !7` on `u64` is `roundUp8` (all 2^64 − 7 arguments). -/
theorem incAlign_bits (n : UInt64) (h : n.toNat < 2^64 - 7) : (incAlignU64 n).toNat = roundUp8 n.toNat :=
  incAlignU64_toNat n h

/-! Non-vacuity: concrete inputs meeting the hypotheses, one per interesting branch. -/
example : refFromSlice .dev .tag 0 [1,0,0,0, 12,0,0,0, 1,2,3,4, 0,0,0,0] = .ok (.ok 4) := by decide
example : refFromSlice .release .dummy 0 [1,0,0,0, 4,0,0,0] = .ok (.error .invalidReportedTotalSize) := by decide
example : refFromSlice .dev .dummy 0 [1,0,0,0, 4,0,0,0] = .panic := by decide
example : refFromSlice .dev .tag 0 [1,0,0,0, 16,0,0,0] = .ok (.error .invalidReportedTotalSize) := by decide

end Mb2.C14
