/-
  The impl blocks (as tables, see `FnsTblLookup.lean`) of multiboot2-header: `Multiboot2Header`, `Multiboot2BasicHeader`
  (header.rs), `HeaderTagHeader`, `HeaderTagType` (tags.rs) and the eleven header-tag types.
-/

import Mb2.Props.FnsTblLookup
open Mb2 Mb2.Rir

namespace Mb2.Fns


-- BEGIN TABLES (generated once by a script from the unchanged tree, then REVIEWED row by row)
theorem tbl_hdr_eq : Gen.Fns.tbl_hdr = some [
  ("load->Result<Self,LoadError>", "covered", none, [], []),
  ("find_header->Result<Option<(&[u8],u32)>,LoadError>", "covered", none, [], []),
  ("iter->TagIter", "covered", none, [], []),
  ("verify_checksum->bool", "ir", some (.var 0), ["self.0.header().verify_checksum()"], []),
  ("header_magic->u32", "ir", some (.var 0), ["self.0.header().header_magic()"], []),
  ("arch->HeaderTagISA", "ir", some (.var 0), ["self.0.header().arch()"], []),
  ("length->u32", "ir", some (.var 0), ["self.0.header().length()"], []),
  ("checksum->u32", "ir", some (.var 0), ["self.0.header().checksum()"], []),
  ("calc_checksum->u32", "ir", some (.var 0), ["Multiboot2BasicHeader::calc_checksum(magic,arch,length)"], []),
  ("information_request_tag->Option<&InformationRequestHeaderTag>", "ir", some (.var 0), ["self.get_tag()"], []),
  ("address_tag->Option<&AddressHeaderTag>", "ir", some (.var 0), ["self.get_tag()"], []),
  ("entry_address_tag->Option<&EntryAddressHeaderTag>", "ir", some (.var 0), ["self.get_tag()"], []),
  ("entry_address_efi32_tag->Option<&EntryEfi32HeaderTag>", "ir", some (.var 0), ["self.get_tag()"], []),
  ("entry_address_efi64_tag->Option<&EntryEfi64HeaderTag>", "ir", some (.var 0), ["self.get_tag()"], []),
  ("console_flags_tag->Option<&ConsoleHeaderTag>", "ir", some (.var 0), ["self.get_tag()"], []),
  ("framebuffer_tag->Option<&FramebufferHeaderTag>", "ir", some (.var 0), ["self.get_tag()"], []),
  ("module_align_tag->Option<&ModuleAlignHeaderTag>", "ir", some (.var 0), ["self.get_tag()"], []),
  ("efi_boot_services_tag->Option<&EfiBootServiceHeaderTag>", "ir", some (.var 0), ["self.get_tag()"], []),
  ("relocatable_tag->Option<&RelocatableHeaderTag>", "ir", some (.var 0), ["self.get_tag()"], []),
  ("get_tag->Option<&'aT>", "covered", none, [], [])] := rfl

theorem tbl_hb_eq : Gen.Fns.tbl_hb = some [
  ("new->Self", "ir", some (.letIn 101 (.tlit 3897708758 .u32) (.letIn 126 (.letIn 122 (.var 101) (.letIn 123 (.var 0) (.letIn 124 (.var 1) (.prim2 .wrappingSub (.prim2 .wrappingSub (.prim2 .wrappingSub (.tlit 0 .u32) (.var 122)) (.cast (.var 123) .u32)) (.var 124))))) (.pair (.var 101) (.pair (.var 0) (.pair (.var 1) (.var 126)))))), ["arch", "length"], []),
  ("verify_checksum->bool", "covered", none, [], []),
  ("calc_checksum->u32", "covered", none, [], []),
  ("header_magic->u32", "ir", some (.var 0), ["self.header_magic"], []),
  ("arch->HeaderTagISA", "ir", some (.var 0), ["self.arch"], []),
  ("length->u32", "ir", some (.var 0), ["self.length"], []),
  ("checksum->u32", "ir", some (.var 0), ["self.checksum"], [])] := rfl

theorem tbl_hth_eq : Gen.Fns.tbl_hth = some [
  ("new->Self", "ir", some (.pair (.var 0) (.pair (.var 1) (.var 2))), ["typ", "flags", "size"], []),
  ("typ->HeaderTagType", "ir", some (.var 0), ["self.typ"], []),
  ("flags->HeaderTagFlag", "ir", some (.var 0), ["self.flags"], []),
  ("size->u32", "ir", some (.var 0), ["self.size"], [])] := rfl

theorem tbl_htt_eq : Gen.Fns.tbl_htt = some [
  ("count->u32", "ir", some (.lit 11), [], [])] := rfl

theorem tbl_h_address_eq : Gen.Fns.tbl_h_address = some [
  ("new->Self", "covered", none, [], []),
  ("typ->HeaderTagType", "ir", some (.var 0), ["self.header.typ()"], []),
  ("flags->HeaderTagFlag", "ir", some (.var 0), ["self.header.flags()"], []),
  ("size->u32", "ir", some (.var 0), ["self.header.size()"], []),
  ("header_addr->u32", "ir", some (.var 0), ["self.header_addr"], []),
  ("load_addr->u32", "ir", some (.var 0), ["self.load_addr"], []),
  ("load_end_addr->u32", "ir", some (.var 0), ["self.load_end_addr"], []),
  ("bss_end_addr->u32", "ir", some (.var 0), ["self.bss_end_addr"], [])] := rfl

theorem tbl_h_console_eq : Gen.Fns.tbl_h_console = some [
  ("new->Self", "covered", none, [], []),
  ("typ->HeaderTagType", "ir", some (.var 0), ["self.header.typ()"], []),
  ("flags->HeaderTagFlag", "ir", some (.var 0), ["self.header.flags()"], []),
  ("size->u32", "ir", some (.var 0), ["self.header.size()"], []),
  ("console_flags->ConsoleHeaderTagFlags", "ir", some (.var 0), ["self.console_flags"], [])] := rfl

theorem tbl_h_end_eq : Gen.Fns.tbl_h_end = some [
  ("new->Self", "covered", none, [], []),
  ("typ->HeaderTagType", "ir", some (.var 0), ["self.header.typ()"], []),
  ("flags->HeaderTagFlag", "ir", some (.var 0), ["self.header.flags()"], []),
  ("size->u32", "ir", some (.var 0), ["self.header.size()"], [])] := rfl

theorem tbl_h_entry_eq : Gen.Fns.tbl_h_entry = some [
  ("new->Self", "covered", none, [], []),
  ("typ->HeaderTagType", "ir", some (.var 0), ["self.header.typ()"], []),
  ("flags->HeaderTagFlag", "ir", some (.var 0), ["self.header.flags()"], []),
  ("size->u32", "ir", some (.var 0), ["self.header.size()"], []),
  ("entry_addr->u32", "ir", some (.var 0), ["self.entry_addr"], [])] := rfl

theorem tbl_h_efi32_eq : Gen.Fns.tbl_h_efi32 = some [
  ("new->Self", "covered", none, [], []),
  ("typ->HeaderTagType", "ir", some (.var 0), ["self.header.typ()"], []),
  ("flags->HeaderTagFlag", "ir", some (.var 0), ["self.header.flags()"], []),
  ("size->u32", "ir", some (.var 0), ["self.header.size()"], []),
  ("entry_addr->u32", "ir", some (.var 0), ["self.entry_addr"], [])] := rfl

theorem tbl_h_efi64_eq : Gen.Fns.tbl_h_efi64 = some [
  ("new->Self", "covered", none, [], []),
  ("typ->HeaderTagType", "ir", some (.var 0), ["self.header.typ()"], []),
  ("flags->HeaderTagFlag", "ir", some (.var 0), ["self.header.flags()"], []),
  ("size->u32", "ir", some (.var 0), ["self.header.size()"], []),
  ("entry_addr->u32", "ir", some (.var 0), ["self.entry_addr"], [])] := rfl

theorem tbl_h_fb_eq : Gen.Fns.tbl_h_fb = some [
  ("new->Self", "covered", none, [], []),
  ("typ->HeaderTagType", "ir", some (.var 0), ["self.header.typ()"], []),
  ("flags->HeaderTagFlag", "ir", some (.var 0), ["self.header.flags()"], []),
  ("size->u32", "ir", some (.var 0), ["self.header.size()"], []),
  ("width->u32", "ir", some (.var 0), ["self.width"], []),
  ("height->u32", "ir", some (.var 0), ["self.height"], []),
  ("depth->u32", "ir", some (.var 0), ["self.depth"], [])] := rfl

theorem tbl_h_modalign_eq : Gen.Fns.tbl_h_modalign = some [
  ("new->Self", "covered", none, [], []),
  ("typ->HeaderTagType", "ir", some (.var 0), ["self.header.typ()"], []),
  ("flags->HeaderTagFlag", "ir", some (.var 0), ["self.header.flags()"], []),
  ("size->u32", "ir", some (.var 0), ["self.header.size()"], [])] := rfl

theorem tbl_h_efibs_eq : Gen.Fns.tbl_h_efibs = some [
  ("new->Self", "covered", none, [], []),
  ("typ->HeaderTagType", "ir", some (.var 0), ["self.header.typ()"], []),
  ("flags->HeaderTagFlag", "ir", some (.var 0), ["self.header.flags()"], []),
  ("size->u32", "ir", some (.var 0), ["self.header.size()"], [])] := rfl

theorem tbl_h_reloc_eq : Gen.Fns.tbl_h_reloc = some [
  ("new->Self", "covered", none, [], []),
  ("typ->HeaderTagType", "ir", some (.var 0), ["self.header.typ()"], []),
  ("flags->HeaderTagFlag", "ir", some (.var 0), ["self.header.flags()"], []),
  ("size->u32", "ir", some (.var 0), ["self.header.size()"], []),
  ("min_addr->u32", "ir", some (.var 0), ["self.min_addr"], []),
  ("max_addr->u32", "ir", some (.var 0), ["self.max_addr"], []),
  ("align->u32", "ir", some (.var 0), ["self.align"], []),
  ("preference->RelocatableHeaderTagPreference", "ir", some (.var 0), ["self.preference"], [])] := rfl

theorem tbl_h_inforeq_eq : Gen.Fns.tbl_h_inforeq = some [
  ("new->Box<Self>", "covered", none, [], []),
  ("typ->HeaderTagType", "ir", some (.var 0), ["self.header.typ()"], []),
  ("flags->HeaderTagFlag", "ir", some (.var 0), ["self.header.flags()"], []),
  ("size->u32", "ir", some (.var 0), ["self.header.size()"], []),
  ("requests->&[MbiTagTypeId]", "ir", some (.var 0), ["self.requests"], [])] := rfl

-- END TABLES

/-! ### what the pinned rows mean -/

/-- `Multiboot2BasicHeader::new(arch, length)`: magic constant, the two arguments, and the checksum the model computes
    (`calcChecksum`, which `C10.checksum_law` and `C10.checksum_unique` show to be THE word that makes the four fields sum to 0 mod 2^32) -/
theorem hb_new_eq (p : Profile) (a l : Nat) (ha : a < W32) :
    evalO p [.int .u32 a, .int .u32 l] (tblRow Gen.Fns.tbl_hb "new->Self") =
      some (.ok (.pair (.int .u32 HMAGIC) (.pair (.int .u32 a) (.pair (.int .u32 l) (.int .u32 (calcChecksum HMAGIC a l)))))) := by
  rw [tbl_hb_eq, tblRow_head, calcChecksum_mod _ a _ ha]; rfl

/-- the ten typed getters of `Multiboot2Header` are `get_tag` at the tag type their return type names -/
theorem hdr_typed_getters_forward :
    ∀ g ∈ ["information_request_tag->Option<&InformationRequestHeaderTag>", "address_tag->Option<&AddressHeaderTag>",
           "entry_address_tag->Option<&EntryAddressHeaderTag>", "entry_address_efi32_tag->Option<&EntryEfi32HeaderTag>",
           "entry_address_efi64_tag->Option<&EntryEfi64HeaderTag>", "console_flags_tag->Option<&ConsoleHeaderTag>",
           "framebuffer_tag->Option<&FramebufferHeaderTag>", "module_align_tag->Option<&ModuleAlignHeaderTag>",
           "efi_boot_services_tag->Option<&EfiBootServiceHeaderTag>", "relocatable_tag->Option<&RelocatableHeaderTag>"],
      tblRow Gen.Fns.tbl_hdr g = some (.var 0) ∧ tblVars Gen.Fns.tbl_hdr g = ["self.get_tag()"] := by
  decide +kernel

/-- `typ()` / `flags()` / `size()` of every header tag forward to the same-named accessor of its `HeaderTagHeader`, which
    returns the same-named field -/
theorem header_tag_common_accessors :
    ∀ t ∈ [Gen.Fns.tbl_h_address, Gen.Fns.tbl_h_console, Gen.Fns.tbl_h_end, Gen.Fns.tbl_h_entry, Gen.Fns.tbl_h_efi32,
           Gen.Fns.tbl_h_efi64, Gen.Fns.tbl_h_fb, Gen.Fns.tbl_h_modalign, Gen.Fns.tbl_h_efibs, Gen.Fns.tbl_h_reloc,
           Gen.Fns.tbl_h_inforeq],
      (tblRow t "typ->HeaderTagType" = some (.var 0) ∧ tblVars t "typ->HeaderTagType" = ["self.header.typ()"]) ∧
      (tblRow t "flags->HeaderTagFlag" = some (.var 0) ∧ tblVars t "flags->HeaderTagFlag" = ["self.header.flags()"]) ∧
      (tblRow t "size->u32" = some (.var 0) ∧ tblVars t "size->u32" = ["self.header.size()"]) := by
  decide +kernel

end Mb2.Fns
