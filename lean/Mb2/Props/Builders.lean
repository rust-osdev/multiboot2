/-
  Mb2.Props.Builders — SOURCE = MODEL for the two `Builder`s.

  `tools/gen_builders.py` classifies every statement of `build()` and every setter of the two `Builder` impls of /repo's
  working tree (`Mb2/Gen/Builders.lean`, regenerated on every run). The theorems state that

    * `build()` is exactly: make the structure header, push `as_bytes()` of every slot - one `if let Some` per `Option` slot,
      one `for` per `Vec` slot - in the order of the model's `mbiSlots` / `hdrSlots`, push the end tag, `new_boxed`: the
      straight-line emission that `buildMbi` / `buildHdr` fold over (no filter, sort, condition or second push);
    * every slot has exactly one setter, an assignment `self.f = Some(arg)` for single-valued kinds ("the last call wins") and
      a `push` for repeatable kinds ("all of them in call order"); nothing else touches the slots;
    * the struct's field kinds (`Option` / `Vec`) are the model's repeatable flags.

  `none` (impl not found) makes the statements vacuous: lost coverage, not an alarm.
-/
import Mb2.Gen.Builders
import Mb2.Build
namespace Mb2.Builders
open Mb2

/-- Rust field name of `multiboot2::Builder` -> slot name of the model -/
def mbiField : List (String × String) :=
  [("cmdline", "cmdline"), ("bootloader", "loader"), ("modules", "module"), ("meminfo", "meminfo"), ("bootdev", "bootdev"),
   ("mmap", "mmap"), ("vbe", "vbe"), ("framebuffer", "fb"), ("elf_sections", "elf"), ("apm", "apm"), ("efi32", "efi32"),
   ("efi64", "efi64"), ("smbios", "smbios"), ("rsdpv1", "rsdp1"), ("rsdpv2", "rsdp2"), ("network", "network"),
   ("efi_mmap", "efimmap"), ("efi_bs", "efibs"), ("efi32_ih", "ih32"), ("efi64_ih", "ih64"), ("image_load_addr", "loadbase"),
   ("custom_tags", "custom")]

def hdrField : List (String × String) :=
  [("information_request_tag", "h_inforeq"), ("address_tag", "h_address"), ("entry_tag", "h_entry"), ("console_tag", "h_console"),
   ("framebuffer_tag", "h_fb"), ("module_align_tag", "h_modalign"), ("efi_bs_tag", "h_efibs"), ("efi_32_tag", "h_efi32"),
   ("efi_64_tag", "h_efi64"), ("relocatable_tag", "h_reloc")]

def slotOf (m : List (String × String)) (f : String) : String :=
  match m.find? (·.1 == f) with | some x => x.2 | none => "?" ++ f

/-- the statement list `build()` must consist of, given the model's slot table -/
def expectedSteps (hdr endTag : String) (m : List (String × String)) (slots : List (String × Bool)) : List (String × String) :=
  [("header", hdr)] ++
  slots.map (fun s => (if s.2 then "vec" else "opt", match m.find? (·.2 == s.1) with | some x => x.1 | none => "?")) ++
  [("end", endTag), ("boxed", "")]

def stepsAgree (g : Option (List (String × String))) (e : List (String × String)) : Bool :=
  match g with | none => true | some l => l == e

/-- every slot has exactly one setter of the right kind, and there is no other setter -/
def settersAgree (g : Option (List (String × String × String))) (m : List (String × String)) (slots : List (String × Bool)) : Bool :=
  match g with
  | none => true
  | some l =>
    l.length == slots.length &&
    l.all (fun s => s.2.1 == "set" || s.2.1 == "push" || s.2.1 == "custom-push") &&
    slots.all (fun sl => (l.filter (fun s => slotOf m s.2.2 == sl.1 && (s.2.1 != "set") == sl.2)).length == 1)

def fieldsAgree (g : Option (List (String × String))) (m : List (String × String)) (slots : List (String × Bool)) : Bool :=
  match g with
  | none => true
  | some l => (l.filter (fun f => f.2 != "other")).map (fun f => (slotOf m f.1, f.2 == "vec")) == slots

theorem mbi_build_is_model :
    stepsAgree Gen.Builders.mbi_steps (expectedSteps "BootInformationHeader::new(0)" "EndTag::default()" mbiField mbiSlots) = true := by
  decide +kernel

theorem mbi_setters_are_model : settersAgree Gen.Builders.mbi_setters mbiField mbiSlots = true := by decide +kernel
theorem mbi_fields_are_model : fieldsAgree Gen.Builders.mbi_fields mbiField mbiSlots = true := by decide +kernel

theorem hdr_build_is_model :
    stepsAgree Gen.Builders.hdr_steps
      (expectedSteps "Multiboot2BasicHeader::new(self.arch, 0)" "EndHeaderTag::new()" hdrField hdrSlots) = true := by
  decide +kernel

theorem hdr_setters_are_model : settersAgree Gen.Builders.hdr_setters hdrField hdrSlots = true := by decide +kernel
theorem hdr_fields_are_model : fieldsAgree Gen.Builders.hdr_fields hdrField hdrSlots = true := by decide +kernel

end Mb2.Builders
