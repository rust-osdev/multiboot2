/-
  SOURCE = MODEL for `ElfSection::section_type` (multiboot2/src/elf_sections.rs).
-/

import Mb2.Props.FnsBase
open Mb2 Mb2.Rir

namespace Mb2.Fns

def encElfType : ElfSectionType → V
  | .unused => .c0 "ElfSectionType::Unused" | .programSection => .c0 "ElfSectionType::ProgramSection"
  | .linkerSymbolTable => .c0 "ElfSectionType::LinkerSymbolTable" | .stringTable => .c0 "ElfSectionType::StringTable"
  | .relaRelocation => .c0 "ElfSectionType::RelaRelocation" | .symbolHashTable => .c0 "ElfSectionType::SymbolHashTable"
  | .dynamicLinkingTable => .c0 "ElfSectionType::DynamicLinkingTable" | .note => .c0 "ElfSectionType::Note"
  | .uninitialized => .c0 "ElfSectionType::Uninitialized" | .relRelocation => .c0 "ElfSectionType::RelRelocation"
  | .reserved => .c0 "ElfSectionType::Reserved" | .dynamicLoaderSymbolTable => .c0 "ElfSectionType::DynamicLoaderSymbolTable"
  | .environmentSpecific => .c0 "ElfSectionType::EnvironmentSpecific"
  | .processorSpecific => .c0 "ElfSectionType::ProcessorSpecific"

/-- `ElfSection::section_type` = `ElfSectionType.classify`, for every raw value -/
theorem elf_section_type_eq (p : Profile) (n : Nat) :
    evalO p [.int .u32 n] Gen.Fns.elf_section_type = some (.ok (encElfType (ElfSectionType.classify n))) := by
  simp only [Gen.Fns.elf_section_type, rir, ElfSectionType.classify, apply_ite encElfType]
  simp only [encElfType]

end Mb2.Fns
