/-
  Typed views of walked tags, once for both crates (header kinds `tag` and `ht`).

  `TagView p hk area typ d v`: the view `v` is the cast to `d` of a tag of type `typ` that the specification's walk over
  `area` yields. Both `get_tag`s and the module iterator produce such views; everything the accessors need (the view's
  extent is the tag's extent inside the area, the fixed part and the tail lie inside it, fields decode to the bytes of the
  area) follows from the walk's guarantees (C03) and the cast's (`castTo_eq_ok_iff`), and is stated here for any kind and descriptor.
-/
import Mb2.Lemmas.View
import Mb2.Lemmas.Tags
import Mb2.Lemmas.Obs
import Mb2.Props.C03
namespace Mb2
open C01 Sweep

/-- `v` is the cast to `d` of the tag of type `typ`, declared size `v.size`, at offset `v.off` of the specification's walk
    over `area` (`kind`: the header kinds an iterator exists for all have 8-byte headers) -/
structure TagView (p : Profile) (hk : HK) (area : Bytes) (typ : Nat) (d : TyDesc) (v : View) : Prop where
  kind : hk.hsize = 8
  item : (⟨v.off, typ, v.size, v.size - 8⟩ : Item) ∈ (Spec.tagsOf hk area).1
  cast : castTo p hk d v.size (v.size - 8) = .ok (v.sov, v.n)

theorem TagView.of_item {p hk area d v} {it : Item} (hi : C03.IterKind hk) (hmem : it ∈ (Spec.tagsOf hk area).1)
    (hoff : it.off = v.off) (hsize : it.size = v.size) (hc : castTo p hk d it.size it.pl = .ok (v.sov, v.n)) :
    TagView p hk area it.typ d v := by
  obtain ⟨-, -, -, -, hpl, -⟩ := C03.walk_items_inside hk area _ 0 (by omega) it hmem
  obtain ⟨off, typ, size, pl⟩ := it
  simp only at hoff hsize hpl hc
  subst hoff hsize hpl
  exact ⟨(HK.iter_layout hi).1, hmem, hc⟩

theorem TagView.of_firstCast {p hk area typ d v} (hi : C03.IterKind hk) (hb : area.length % 8 = 0)
    (hlen : area.length < 2^62)
    (h : firstCast (tagsOf p hk area) typ (fun it => castTo p hk d it.size it.pl) = .ok (some v)) :
    TagView p hk area typ d v := by
  obtain ⟨it, hf, hoff, hsize, hc⟩ := firstCast_eq_some.mp h
  rw [C03.tags_eq_spec p hk hi area hb hlen] at hf
  exact (find?_typ_eq_some hf).1 ▸ TagView.of_item hi (List.mem_of_find?_eq_some hf) hoff hsize hc

namespace TagView
variable {p : Profile} {hk : HK} {area : Bytes} {typ : Nat} {d : TyDesc} {v : View} (g : TagView p hk area typ d v)
include g

theorem inside : v.off % 8 = 0 ∧ 8 ≤ v.size ∧ v.off + roundUp8 v.size ≤ area.length ∧
    v.size = le32 area (v.off + 4) ∧ typ = tagTyp hk area v.off := by
  obtain ⟨haligned, -, hsize8, hfit, -, hsize, htyp⟩ := C03.walk_items_inside hk area _ 0 (by omega) _ g.item
  exact ⟨haligned, hsize8, hfit, hsize, htyp⟩

theorem aligned : v.off % 8 = 0 := g.inside.1

theorem size8 : 8 ≤ v.size := g.inside.2.1

theorem typ_eq : typ = tagTyp hk area v.off := g.inside.2.2.2.2

/-- the view spans exactly the tag's extent: its size rounded up to 8 (what `C15.cast_view_is_tag_extent` states) -/
theorem sov : v.sov = roundUp8 v.size := by
  rw [(castTo_eq_ok_iff.mp g.cast).2.2.2, ← (castTo_eq_ok_iff.mp g.cast).2.2.1, dynSizeOfVal_sub8 hk g.kind _ g.size8]

theorem fit : v.off + v.sov ≤ area.length := g.sov ▸ g.inside.2.2.1

theorem len : (v.bytes area).length = v.sov := slice_length area v.off v.sov g.fit

theorem size_le : v.size ≤ (v.bytes area).length := by rw [g.len, g.sov]; exact roundUp8_ge _

theorem declared_len : (declared (v.bytes area) v).length = v.size := by
  unfold declared; rw [List.length_take]; exact Nat.min_eq_left g.size_le

theorem fixed_le_sov (ha : 0 < d.align) : d.fixed ≤ v.sov :=
  (castTo_eq_ok_iff.mp g.cast).2.2.2 ▸ d.fixed_le_sizeOfVal ha v.n

theorem fixed_le (ha : 0 < d.align) : d.fixed ≤ (v.bytes area).length := g.len ▸ g.fixed_le_sov ha

theorem rdW_eq (ha : 0 < d.align) {o w : Nat} (hw : w = 1 ∨ w = 2 ∨ w = 4 ∨ w = 8) (hin : o + w ≤ d.fixed) :
    rdW (v.bytes area) o w = .ok (leW area (v.off + o) w) :=
  rdW_slice area v.off v.sov o w hw (Nat.le_trans hin (g.fixed_le_sov ha)) g.fit

theorem le16_eq (ha : 0 < d.align) {o : Nat} (hin : o + 2 ≤ d.fixed) : le16 (v.bytes area) o = le16 area (v.off + o) :=
  le16_slice area v.off v.sov o (Nat.le_trans hin (g.fixed_le_sov ha))

theorem le32_eq (ha : 0 < d.align) {o : Nat} (hin : o + 4 ≤ d.fixed) : le32 (v.bytes area) o = le32 area (v.off + o) :=
  le32_slice area v.off v.sov o (Nat.le_trans hin (g.fixed_le_sov ha))

theorem noFault_fields (ha : 0 < d.align) {fs : List (String × Nat × Nat)}
    (hfs : ∀ f ∈ fs, f.2.1 + f.2.2 ≤ d.fixed ∧ (f.2.2 = 1 ∨ f.2.2 = 2 ∨ f.2.2 = 4 ∨ f.2.2 = 8)) :
    Obs.NoFault (fields (v.bytes area) fs) :=
  (Mb2.noFault_fields _ _).mpr fun f hf => g.rdW_eq ha (hfs f hf).2 (hfs f hf).1 ▸ safe_ok _

end TagView

theorem TagView.dst {p hk area typ base e v} (g : TagView p hk area typ (dstDesc base e) v) :
    base + v.n * e = v.size :=
  (castTo_dstDesc_eq_ok g.kind g.size8 (g.kind ▸ (castTo_eq_ok_iff.mp g.cast).1) g.cast).2.1

theorem TagView.tail {p hk area typ base e v} (g : TagView p hk area typ (dstDesc base e) v) :
    base + v.n * e = v.size ∧ v.size ≤ (v.bytes area).length ∧ (declared (v.bytes area) v).length = v.size :=
  ⟨g.dst, g.size_le, g.declared_len⟩

end Mb2
