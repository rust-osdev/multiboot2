/-
  SOURCE = MODEL for `new_boxed` (multiboot2-common/src/boxed.rs).

  * the size computation and the final layout assertion (`new_boxed_eq`): `tag_size = size_of::<Header>() + Σ |slice|`,
    allocation `increase_to_alignment(tag_size)` with alignment `ALIGNMENT`, panic unless `size_of_val(box) == alloc_size`
    (the model's `newBoxed`: `alloc ← incAlign tagSize; if sov ≠ alloc then panic`);
  * ONE iteration of the copy loop as a step function (`new_boxed_copy_step_eq`): the write offset advances by exactly the
    length of the slice; the EFFECTS of the function are pinned: `header.set_size(tag_size)`, the header copied to offset 0,
    each slice copied from `bytes.as_ptr()` to `heap_ptr.add(write_offset)` for `bytes.len()` bytes, the loop runs over
    `additional_bytes_slices` in order, `write_offset` starts at the header size;
  * `copy_chain_is_concat` (pure list lemma): writing the slices one after the other at offsets that start at `|hdr|` and
    advance by each slice's length produces exactly `hdr ++ slices.flatten` - "the concatenated content without gaps".
-/
import Mb2.Props.FnsBase
open Mb2 Mb2.Rir

namespace Mb2.Fns

/-- The body of `new_boxed`, evaluated once: the size computation, then the two assertions on whatever `is_null()` and
    `size_of_val` delivered. -/
theorem new_boxed_eval (p : Profile) (hs add : Nat) (isNull : Bool) (sov layout box wo len : V) :
    evalO p [.int .usize hs, .int .usize add, .bool isNull, sov, .c1 "Ok" layout, box, wo, len] Gen.Fns.new_boxed =
      some ((uadd p W64 hs add) >>= fun tagSize => (incAlign p tagSize) >>= fun alloc =>
              if isNull then .panic else binop p .eq sov (.int .usize alloc) >>= fun c => cond c (.ok box) .panic) := by
  simp only [Gen.Fns.new_boxed, rir, incAlign_eq_band, usub_ok p W64 8 1 (by decide)]  -- `ALIGNMENT - 1`

theorem new_boxed_eq (p : Profile) (hs add sov : Nat) (layout box wo len : V) :
    evalO p [.int .usize hs, .int .usize add, .bool false, .int .usize sov, .c1 "Ok" layout, box, wo, len] Gen.Fns.new_boxed =
      some ((uadd p W64 hs add) >>= fun tagSize => (incAlign p tagSize) >>= fun alloc =>
              if sov = alloc then .ok box else .panic) := by
  simp only [new_boxed_eval, rir]

/-- an unchecked addition never faults: followed by a panic, the whole is a panic -/
theorem uadd_bind_panic {α} (p : Profile) (w a b : Nat) : (uadd p w a b >>= fun _ => (Res.panic : Res α)) = .panic := by
  unfold uadd
  split
  · rfl
  · cases p <;> rfl

/-- A null allocation panics whatever the sizes are: an overflowing size computation panics (`dev`) or wraps (`release`),
    and `assert!(!heap_ptr.is_null())` then panics anyway. -/
theorem new_boxed_null_panics (p : Profile) (hs add : Nat) (sov layout box wo len : V) :
    evalO p [.int .usize hs, .int .usize add, .bool true, sov, .c1 "Ok" layout, box, wo, len] Gen.Fns.new_boxed = some .panic := by
  simp only [new_boxed_eval, incAlign_eq_band, rir, uadd_bind_panic]

/-- a null allocation is a controlled panic (`assert!(!heap_ptr.is_null())`) -/
theorem new_boxed_null_eq (p : Profile) (hs add : Nat) (sov layout box wo len : V) (h : hs + add + 7 < W64) :
    evalO p [.int .usize hs, .int .usize add, .bool true, sov, .c1 "Ok" layout, box, wo, len] Gen.Fns.new_boxed = some .panic :=
  have _ := h
  new_boxed_null_panics p hs add sov layout box wo len

theorem new_boxed_copy_step_eq (p : Profile) (a0 a1 a2 a3 a4 a5 : V) (wo len : Nat) (h : wo + len < W64) :
    evalO p [a0, a1, a2, a3, a4, a5, .int .usize wo, .int .usize len] Gen.Fns.new_boxed_loop0 =
      some (.ok (.int .usize (wo + len))) := by
  simp only [Gen.Fns.new_boxed_loop0, rir, uadd_ok p W64 wo len h]

def pinnedList (g : Option E) (l e : List String) : Bool := match g with | none => true | some _ => l == e

theorem pinnedList_of_eq (g : Option E) {l e : List String} (h : l = e) : pinnedList g l e = true := by
  cases g with
  | none => rfl
  | some _ => exact beq_iff_eq.2 h

theorem new_boxed_effects_pinned :
    pinnedList Gen.Fns.new_boxed Gen.Fns.new_boxed_effects
      ["header.set_size(tag_size)",
       "ptr::copy_nonoverlapping(addr_of!(..).cast::<u8>(),alloc::alloc::alloc(layout),size_of::<T::Header>())",
       "ptr::copy_nonoverlapping(bytes.as_ptr(),heap_ptr.add(write_offset),bytes.len())"] = true := pinnedList_of_eq _ rfl

theorem new_boxed_loop_pinned :
    (match Gen.Fns.new_boxed with
     | none => true
     | some _ => Gen.Fns.new_boxed_loop0_over == ("&bytes", "additional_bytes_slices") &&
                 Gen.Fns.new_boxed_loop0_state == ["write_offset"] &&
                 Gen.Fns.new_boxed_aliases.contains ("write_offset", "size_of::<T::Header>()")) = true := by decide

/-- sequential writes into a buffer that holds `written` so far: the buffer after each slice of the list has been copied to
    the end of what was there, and the offsets the slices went to -/
def copyChain (written : Bytes) : List Bytes → Bytes × List Nat
  | [] => (written, [])
  | s :: rest =>
    let r := copyChain (written ++ s) rest       -- `s` goes to offset `written.length`, the offset advances by `s.length`
    (r.1, written.length :: r.2)

/-- the step function iterated over the slices, starting at the header size: what has been written is `hdr ++ flatten`,
    and the i-th slice went to offset `|hdr| + Σ_{j<i} |slice j|` -/
theorem copy_chain_is_concat (hdr : Bytes) (slices : List Bytes) :
    (copyChain hdr slices).1 = hdr ++ slices.flatten ∧
    (copyChain hdr slices).2 = (List.range slices.length).map (fun i => hdr.length + ((slices.take i).flatten).length) := by
  induction slices generalizing hdr with
  | nil => simp [copyChain]
  | cons s rest ih =>
    simp [copyChain, ih (hdr ++ s), List.range_succ_eq_map, Function.comp_def, Nat.add_assoc]

end Mb2.Fns
