/-
  C01 — Boot-information parsing never reads outside the loaded structure.

  The model obtains bytes only through checked reads on the permitted extent of a tag (`View.bytes` = the tag's
  `roundUp8 size` bytes inside the tag area of the loaded region); a read outside gives the outcome `oob`.
  The theorems below show that no modelled entry point can produce `oob` (or `ub`), that every typed view lies inside
  the tag area (hence inside the declared region), and that all iterators are bounded. Each entry point is a pure
  function of the immutable region, so "all sequences of calls" reduces to "each call" (iterator handles are covered
  by the history theorems of C03 and the closed forms of C18).
-/
import Mb2.Props.TagView
import Mb2.Props.C04Parts
import Mb2.Props.C18
import Mb2.Props.C19
namespace Mb2.C01
open Mb2

/-- the tag walk over the loaded region never faults: it ends `done` or in a controlled panic -/
theorem walk_no_fault (p : Profile) (area : Bytes) (hb : area.length % 8 = 0) (hlen : area.length < 2^62) :
    (tagsOf p .tag area).2 = .done ∨ (tagsOf p .tag area).2 = .bad :=
  C03.tagsOf_end p C03.IterKind.tag hb hlen

/-- `cast` to any built-in kind yields a view or a controlled panic, never a fault -/
theorem cast_no_fault (p : Profile) (k : Kind) (size pl : Nat) :
    castTo p .tag k.desc size pl ≠ .oob ∧ castTo p .tag k.desc size pl ≠ .ub :=
  castTo_safe (k.desc_safe p size) .tag pl

/-- every typed getter returns a view, nothing, or a controlled panic - never a fault -/
theorem getTag_no_fault (p : Profile) (area : Bytes) (k : Kind) (hb : area.length % 8 = 0) (hlen : area.length < 2^62) :
    getTag p area k ≠ .oob ∧ getTag p area k ≠ .ub :=
  firstCast_safe (walk_no_fault p area hb hlen) fun it => cast_no_fault p k it.size it.pl

theorem getTag_view {p : Profile} {area : Bytes} {k : Kind} {v : View} (hb : area.length % 8 = 0) (hlen : area.length < 2^62)
    (h : getTag p area k = .ok (some v)) : TagView p .tag area k.typ k.desc v :=
  TagView.of_firstCast C03.IterKind.tag hb hlen h

/-- every view handed out lies entirely inside the tag it was derived from, which lies inside the tag area (the declared
    region minus its header): it starts at the tag's 8-aligned offset and spans exactly the tag's size rounded up to 8 -/
theorem view_inside_tag (p : Profile) (area : Bytes) (k : Kind) (v : View)
    (hb : area.length % 8 = 0) (hlen : area.length < 2^62) (h : getTag p area k = .ok (some v)) :
    v.off % 8 = 0 ∧ 8 ≤ v.size ∧ v.sov = roundUp8 v.size ∧ v.off + v.sov ≤ area.length ∧
    (v.bytes area).length = v.sov :=
  have g := getTag_view hb hlen h
  ⟨g.aligned, g.size8, g.sov, g.fit, g.len⟩

/-- plain field accessors never fault on a view of their kind -/
theorem fields_no_fault (area : Bytes) (k : Kind) (v : View) (hfit : v.off + v.sov ≤ area.length)
    (hsov : k.desc.fixed ≤ v.sov) :
    ∀ f ∈ k.fields, ∃ x, rdW (v.bytes area) f.2.1 f.2.2 = .ok x :=
  fun f hf => ⟨_, rdW_fields area v.off v.sov _ _ hfit hsov (C04.fields_inside k) f hf⟩

/-- the `i`-th memory area of a memory-map view is read inside the tag -/
theorem mmap_area_inside (T : Bytes) (n i : Nat) (hT : 16 + 24 * n ≤ T.length) (hi : i < n) :
    (∃ a, rd64 T (16 + 24 * i) = .ok a) ∧ (∃ b, rd64 T (16 + 24 * i + 8) = .ok b) ∧ (∃ c, rd32 T (16 + 24 * i + 16) = .ok c) :=
  ⟨⟨_, rd64_ok (by omega)⟩, ⟨_, rd64_ok (by omega)⟩, ⟨_, rd32_ok (by omega)⟩⟩

/-- framebuffer colour-info bytes are read only inside the buffer `[32, 32+n)`; beyond it the reader panics -/
theorem fb_byte_no_fault (T : Bytes) (n i : Nat) (hT : 32 + n ≤ T.length) :
    fbByte T n i = .panic ∨ ∃ b, fbByte T n i = .ok b := by
  unfold fbByte
  split
  · exact .inr ⟨_, rd8_ok (by omega)⟩
  · exact .inl rfl

/-- the checksum loop over bytes `[a, a+n)` that lie inside `T` returns a value -/
theorem byteSum_no_fault (T : Bytes) (a : Nat) : ∀ n, a + n ≤ T.length → ∃ s, byteSum T a n = .ok s :=
  fun n h => ⟨_, C04.byteSum_eq T a n h⟩

/-- the ACPI 2.0 RSDP check sums at most the 36 bytes behind the 8-byte tag header: never a fault on a tag of that size -/
theorem rsdp2_no_fault (T : Bytes) (hT : 44 ≤ T.length) : ∃ b, rsdp2Valid T = .ok b := ⟨_, C04.rsdp2_valid_iff T hT⟩

/-- EFI descriptors and ELF section headers: restated from C18 / C19 - they are decoded inside the tag and the
    iterators are bounded by `L/d` resp. `n` items -/
theorem efi_no_fault (T : Bytes) (v : View) (ds cnt i : Nat)
    (hT : 16 + v.n ≤ T.length) (hds : 40 ≤ ds) (h8 : ds % 8 = 0) (hcnt : cnt * ds = v.n) (hi : i < cnt) :
    ∃ d, efiDesc T ds i = .ok d ∧ d.off + 40 ≤ 16 + v.n := by
  obtain ⟨d, hdesc, -, -, hend, -⟩ := C18.desc_inside T v ds cnt i hT hds h8 hcnt hi
  exact ⟨d, hdesc, hend⟩

theorem elf_no_fault (T : Bytes) (v : View) (hT : 20 + v.n ≤ T.length) (num es : Nat)
    (h : elfOpen T v = .ok (num, es)) (hes : es = 40 ∨ es = 64) :
    (elfIter T es num 20).2 = .done ∧ (elfIter T es num 20).1.length ≤ num := by
  obtain ⟨-, -, hfit, -⟩ := C19.open_ok (by omega) h
  obtain ⟨hdone, -, hlen⟩ := C19.iter_inside T es hes num 20 (by omega)
  exact ⟨hdone, hlen⟩

/-- termination: the tag walk yields at most `len/8` tags -/
theorem walk_bounded (p : Profile) (area : Bytes) (hb : area.length % 8 = 0) (hlen : area.length < 2^62) :
    (tagsOf p .tag area).1.length ≤ area.length / 8 :=
  C03.tagsOf_length_le p C03.IterKind.tag hb hlen

end Mb2.C01
