/-
  SOURCE = MODEL across function boundaries.

  The translator LINKS separately translated bodies: the IR of `ref_from_slice` with its two calls replaced by the IR of
  `BytesRef::try_from` and of `ref_from_bytes`, whose `hdr.payload_len()` is in turn replaced by the IR of the header kind's
  `payload_len` (monomorphised: `ref_from_slice_tag / _ht / _bi / _hb`). The theorems state that the LINKED term - whose only
  inputs are the slice length, the alignment offset of its address, the declared size word and two opaque tokens - evaluates to
  exactly the model's `refFromSlice` for every slice: the chain  source -> model  (here)  -> specification
  (`C14.refFromSlice_meets_spec`) has no seam left on this path.
-/
import Mb2.Props.FnsBase
import Mb2.Lemmas.Common
open Mb2 Mb2.Rir

namespace Mb2.Fns

/-- the model's result as an IR value; `r` stands for the reference that is returned on success -/
def encRef (r : V) : Res (Ex MemErr Nat) → Res V
  | .ok (.error e) => .ok (.c1 "Err" (encMemErr e))
  | .ok (.ok _) => .ok (.c1 "Ok" r)
  | .panic => .panic | .oob => .oob | .ub => .ub

section
variable (p : Profile) (addr ao : Nat) (bytes : Bytes) (bv r : V) (hao : ao = 0 ↔ addr % 8 = 0) (hlen : bytes.length < W64)
include hao hlen

theorem ref_from_slice_tag_linked_eq :
    evalO p [.int .usize bytes.length, .int .usize ao, bv, .int .u32 (le32 bytes 4), r] Gen.Fns.ref_from_slice_tag =
      some (encRef r (refFromSlice p .tag addr bytes)) := by
  simp only [Gen.Fns.ref_from_slice_tag, rir, mod_W64_of_lt_W32 (le32_lt bytes 4), hao, refFromSlice_eq, HK.hsize, HK.sizeOff,
    payloadLen, apply_ite (encRef r)]
  simp +contextual only [usub_ok, Res.bind_ok]
  simp only [encRef, encMemErr]

theorem ref_from_slice_ht_linked_eq :
    evalO p [.int .usize bytes.length, .int .usize ao, bv, .int .u32 (le32 bytes 4), r] Gen.Fns.ref_from_slice_ht =
      some (encRef r (refFromSlice p .ht addr bytes)) := by
  simp only [Gen.Fns.ref_from_slice_ht, rir, mod_W64_of_lt_W32 (le32_lt bytes 4), hao, refFromSlice_eq, HK.hsize, HK.sizeOff,
    payloadLen, apply_ite (encRef r)]
  simp +contextual only [usub_ok, Res.bind_ok]
  simp only [encRef, encMemErr]

theorem ref_from_slice_bi_linked_eq :
    evalO p [.int .usize bytes.length, .int .usize ao, bv, .int .u32 (le32 bytes 0), r] Gen.Fns.ref_from_slice_bi =
      some (encRef r (refFromSlice p .bi addr bytes)) := by
  simp only [Gen.Fns.ref_from_slice_bi, rir, mod_W64_of_lt_W32 (le32_lt bytes 0), hao, refFromSlice_eq, HK.hsize, HK.sizeOff,
    payloadLen, apply_ite (encRef r)]
  simp +contextual only [usub_ok, Res.bind_ok]
  simp only [encRef, encMemErr]

theorem ref_from_slice_hb_linked_eq :
    evalO p [.int .usize bytes.length, .int .usize ao, bv, .int .u32 (le32 bytes 8), r] Gen.Fns.ref_from_slice_hb =
      some (encRef r (refFromSlice p .hb addr bytes)) := by
  simp only [Gen.Fns.ref_from_slice_hb, rir, mod_W64_of_lt_W32 (le32_lt bytes 8), hao, refFromSlice_eq, HK.hsize, HK.sizeOff,
    payloadLen, apply_ite (encRef r)]
  simp +contextual only [usub_ok, Res.bind_ok]
  simp only [encRef, encMemErr]
end

/-! ### the two `load` functions, linked down to the size arithmetic

  `BootInformation::load` = null check, `ref_from_ptr` (slice of `total_size()` bytes, `BytesRef::try_from`, `ref_from_bytes`
  with `payload_len`), `has_valid_end_tag`; `Multiboot2Header::load` = the same with the basic header, then magic and
  `verify_checksum` (`calc_checksum` inlined). Inputs of the linked terms: the outcome of `NonNull::new`, the alignment offset
  of the pointer, the declared size word, the words the checks look at, two opaque tokens. -/

def encLoad (r : V) : Res (Ex LoadErr Loaded) → Res V
  | .ok (.error (.memory e)) => .ok (.c1 "Err" (.c1 "LoadError::Memory" (encMemErr e)))
  | .ok (.error .noEndTag) => .ok (.c1 "Err" (.c0 "LoadError::NoEndTag"))
  | .ok (.ok _) => .ok (.c1 "Ok" (.c1 "BootInformation::Self" r))
  | .panic => .panic | .oob => .oob | .ub => .ub

/-- the whole of `BootInformation::load`, from the source, IS the closed form `loadClosed` (= the model's `load`,
    `C02.load_eq_closed`, = the specification, `C02.load_meets_spec`) for an aligned non-null pointer ... -/
theorem mbi_load_linked_eq (p : Profile) (d etyp esize : Nat) (ptr bytes r : V) (hd : d < W32) (hs : esize < W32) :
    evalO p [.c1 "Some" ptr, .int .usize 0, bytes, .int .u32 d, r, .int .u32 etyp, .int .u32 esize] Gen.Fns.mbi_load_linked =
      some (encLoad r (loadClosed d etyp esize)) := by
  simp only [Gen.Fns.mbi_load_linked, rir, mod_W64_of_lt_W32 hd, mod_W64_of_lt_W32 hs, loadClosed, apply_ite (encLoad r)]
  -- `Nat.le_refl`: the size guard of `ref_from_bytes` on a slice of `total_size()` bytes compares `d - 8` with itself
  simp +contextual only [usub_ok, Res.bind_ok, Nat.le_refl, if_true]
  simp only [encLoad, encMemErr]

/-- ... and the null pointer is reported as such before anything is looked at -/
theorem mbi_load_linked_null_eq (p : Profile) (ao bytes d r etyp esize : V) :
    evalO p [.c0 "None", ao, bytes, d, r, etyp, esize] Gen.Fns.mbi_load_linked =
      some (.ok (.c1 "Err" (.c1 "LoadError::Memory" (encMemErr .null)))) := by
  simp only [Gen.Fns.mbi_load_linked, rir, encMemErr]

def encHLoad (r : V) : Res (Ex HLoadErr HLoaded) → Res V
  | .ok (.error (.memory e)) => .ok (.c1 "Err" (.c1 "LoadError::Memory" (encMemErr e)))
  | .ok (.error .magicNotFound) => .ok (.c1 "Err" (.c0 "LoadError::MagicNotFound"))
  | .ok (.error .checksumMismatch) => .ok (.c1 "Err" (.c0 "LoadError::ChecksumMismatch"))
  | .ok (.ok _) => .ok (.c1 "Ok" (.c1 "Multiboot2Header::Self" r))
  | .panic => .panic | .oob => .oob | .ub => .ub

/-- the closed form of the model's `hload` for a defined architecture value (`C10.hload_eq_closed`) -/
def hloadClosed (m a l c : Nat) : Res (Ex HLoadErr HLoaded) :=
  if l < 16 then .ok (.error (.memory .shorterThanHeader))
  else if l % 8 ≠ 0 then .ok (.error (.memory .missingPadding))
  else if m ≠ HMAGIC then .ok (.error .magicNotFound)
  else if calcChecksum m a l ≠ c then .ok (.error .checksumMismatch)
  else .ok (.ok ⟨m, a, l, c⟩)

theorem hdr_load_linked_eq (p : Profile) (m a l c : Nat) (ptr bytes r : V) (hl : l < W32) (ha : a < W32) :
    evalO p [.c1 "Some" ptr, .int .usize 0, bytes, .int .u32 l, r, .int .u32 m, .int .u32 a, .int .u32 c] Gen.Fns.hdr_load_linked =
      some (encHLoad r (hloadClosed m a l c)) := by
  unfold hloadClosed calcChecksum wsub32 HMAGIC
  simp only [Gen.Fns.hdr_load_linked, rir, mod_W64_of_lt_W32 hl, Nat.mod_eq_of_lt ha, apply_ite (encHLoad r)]
  simp +contextual only [usub_ok, Res.bind_ok, Nat.le_refl, if_true]  -- `Nat.le_refl`: as in `mbi_load_linked_eq`, `l - 16`
  simp only [encHLoad, encMemErr]

end Mb2.Fns
