/-
  C06 — Building then loading a boot information preserves exactly the supplied tags.

  Three independent parts, each generic in what distinguishes the two builders (header kind, slot table, header and end
  image), so that C12 instantiates them again: the walk of a concatenation of well-formed images (`walk_concat`,
  `built_area_walk`); the builder state holds well-formed images only (`runOps_imgs_wf`); the final `new_boxed`
  (`newBoxed_build`). What is particular to the boot information is that every accepted operation yields a well-formed
  image (`mopImg_wf`), and the loader (`build_wellformed`).
-/
import Mb2.Build
import Mb2.Spec
import Mb2.Lemmas.Build
import Mb2.Props.C02
import Mb2.Props.C07Parts
-- registered under C06 in `Props/INDEX.json`: the check audits them through this module; nothing below uses them
import Mb2.Props.FnsBoxed
import Mb2.Props.FnsCast
import Mb2.Props.Builders
import Mb2.Props.C16
namespace Mb2.C06
open Mb2

/-- a well-formed tag image as `as_bytes()` hands it to the builder: at least the header, a multiple of 8 long, and its
    size field rounds up to exactly its length -/
def WFImg (b : Bytes) : Prop := 8 ≤ b.length ∧ 8 ≤ le32 b 4 ∧ roundUp8 (le32 b 4) = b.length

/-- the walk items a list of images produces when laid out back to back from offset `off` -/
def itemsOf (k : HK) : List Bytes → Nat → List Item
  | [], _ => []
  | b :: rest, off => ⟨off, tagTyp k b 0, le32 b 4, le32 b 4 - 8⟩ :: itemsOf k rest (off + b.length)

theorem u8At_append_left' (a b : Bytes) (i : Nat) (h : i < a.length) : u8At (a ++ b) i = u8At a i :=
  u8At_append_left a b i h

theorem tagTyp_mid (k : HK) (pre mid post : Bytes) (h : 8 ≤ mid.length) :
    tagTyp k (pre ++ (mid ++ post)) pre.length = tagTyp k mid 0 := by
  cases k
  case ht => exact le16_mid pre mid post 0 (by omega)
  all_goals exact le32_mid pre mid post 0 (by omega)

theorem itemsOf_append (k : HK) (a b : List Bytes) (off : Nat) :
    itemsOf k (a ++ b) off = itemsOf k a off ++ itemsOf k b (off + a.flatten.length) := by
  induction a generalizing off with
  | nil => rfl
  | cons x a ih => simp only [List.cons_append, itemsOf, ih, List.flatten_cons, List.length_append, Nat.add_assoc]

/-- every image takes up at least one unit of walk fuel, and the images together a multiple of 8 -/
theorem wf_flatten_length (imgs : List Bytes) (hwf : ∀ b ∈ imgs, WFImg b) :
    imgs.length * 8 ≤ imgs.flatten.length ∧ imgs.flatten.length % 8 = 0 := by
  induction imgs with
  | nil => exact ⟨Nat.le_refl _, rfl⟩
  | cons b rest ih =>
    obtain ⟨h8, -, hr⟩ := hwf b List.mem_cons_self
    have := roundUp8_mod (le32 b 4)
    have := ih fun x hx => hwf x (List.mem_cons_of_mem _ hx)
    simp only [List.flatten_cons, List.length_append, List.length_cons]
    omega

theorem wf_len_mod (imgs : List Bytes) (hwf : ∀ b ∈ imgs, WFImg b) : imgs.flatten.length % 8 = 0 :=
  (wf_flatten_length imgs hwf).2

/-- Walking a concatenation of well-formed images yields exactly one item per image, in order, each at the offset where
    its image starts, with the image's own type and size - and then continues with whatever follows. -/
theorem walk_concat (k : HK) (imgs : List Bytes) (hwf : ∀ b ∈ imgs, WFImg b) :
    ∀ (pre post : Bytes) (fuel : Nat), imgs.length ≤ fuel →
      Spec.walk k (pre ++ (imgs.flatten ++ post)) fuel pre.length =
        (itemsOf k imgs pre.length ++
            (Spec.walk k (pre ++ (imgs.flatten ++ post)) (fuel - imgs.length) (pre.length + imgs.flatten.length)).1,
         (Spec.walk k (pre ++ (imgs.flatten ++ post)) (fuel - imgs.length) (pre.length + imgs.flatten.length)).2) := by
  induction imgs with
  | nil => intro pre post fuel _; rfl
  | cons b rest ih =>
    intro pre post fuel hf
    obtain ⟨h8, hs8, hr⟩ := hwf b List.mem_cons_self
    obtain ⟨n, rfl⟩ : ∃ n, fuel = n + 1 := ⟨fuel - 1, by rw [List.length_cons] at hf; omega⟩
    -- one step of the walk at the start of `b`; the rest is the walk behind the longer prefix `pre ++ b`
    have hbuf : pre ++ ((b :: rest).flatten ++ post) = pre ++ (b ++ (rest.flatten ++ post)) := by
      rw [List.flatten_cons, List.append_assoc]
    have hlen : (pre ++ (b ++ (rest.flatten ++ post))).length = pre.length + (b.length + (rest.flatten ++ post).length) := by
      rw [List.length_append, List.length_append]
    have ih' := ih (fun x hx => hwf x (List.mem_cons_of_mem _ hx)) (pre ++ b) post n (by rw [List.length_cons] at hf; omega)
    rw [List.append_assoc, List.length_append] at ih'
    rw [hbuf, Spec.walk, if_neg (by rw [hlen]; omega), le32_mid pre b _ 4 (by omega), tagTyp_mid k pre b _ h8]
    rw [if_neg (by rw [hlen, hr]; omega), hr, ih']
    simp only [itemsOf, List.length_cons, List.flatten_cons, List.length_append, Nat.add_sub_add_right, Nat.add_assoc,
      List.cons_append]

/-- the end tag image -/
def endImg : Bytes := mbiHdr 0 8

/-- C06, walk part: the tag area `image₁ ++ … ++ imageₙ ++ end tag` walks to exactly the supplied images followed by one
    end tag, and the walk ends cleanly. (The model's `tagsOf` equals this specification walk by C03.) -/
theorem built_area_walk (k : HK) (endI : Bytes) (hend : endI.length = 8) (he4 : le32 endI 4 = 8)
    (imgs : List Bytes) (hwf : ∀ b ∈ imgs, WFImg b) :
    Spec.tagsOf k (imgs.flatten ++ endI) =
      (itemsOf k imgs 0 ++ [⟨imgs.flatten.length, tagTyp k endI 0, 8, 0⟩], .done) := by
  -- the end tag is one more well-formed image; behind it the walk stands at the end of the area, with fuel left
  have hwf' : ∀ b ∈ imgs ++ [endI], WFImg b :=
    List.forall_mem_append.mpr ⟨hwf, List.forall_mem_singleton.mpr ⟨by omega, by omega, by rw [he4, hend]; rfl⟩⟩
  have hcnt := (wf_flatten_length _ hwf').1
  rw [List.flatten_concat] at hcnt
  have h := walk_concat k _ hwf' [] [] ((imgs.flatten ++ endI).length / 8 + 1) (by omega)
  rw [List.flatten_concat, List.append_nil, List.nil_append, List.length_nil, Nat.zero_add] at h
  obtain ⟨m, hm⟩ : ∃ m, (imgs.flatten ++ endI).length / 8 + 1 - (imgs ++ [endI]).length = m + 1 :=
    ⟨(imgs.flatten ++ endI).length / 8 - (imgs ++ [endI]).length, by omega⟩
  have hdone : Spec.walk k (imgs.flatten ++ endI) (m + 1) (imgs.flatten ++ endI).length = ([], .done) := by
    rw [Spec.walk, if_pos rfl]
  rw [Spec.tagsOf, h, hm, hdone, itemsOf_append]
  simp only [itemsOf, he4, Nat.zero_add, List.append_nil]

theorem wf_asBytes (i : Img) (h8 : 8 ≤ i.size) (hl : i.bytes.length = i.size) (h4 : le32 i.bytes 4 = i.size)
    (hs : i.sov = roundUp8 i.size) : WFImg i.asBytes := by
  have g := roundUp8_ge i.size
  unfold WFImg Img.asBytes
  rw [le32_append_left _ _ 4 (by omega), h4, List.length_append, zeros_length]
  omega

theorem sizedImg_wf_of_eq (typ c : Nat) (payload : Bytes) (hc : c = 8 + payload.length) (hs : c < 4294967296) :
    WFImg ((sizedImg typ c payload).asBytes) := by
  obtain ⟨hlen, -, hsize, hsov⟩ := sizedImg_exact typ c payload hc hs
  exact wf_asBytes _ (h8 := by show 8 ≤ c; omega) (hl := hlen) (h4 := hsize) (hs := hsov)

theorem sizedImg_wf (typ : Nat) (payload : Bytes) (hs : 8 + payload.length < 4294967296) :
    WFImg ((sizedImg typ (8 + payload.length) payload).asBytes) :=
  sizedImg_wf_of_eq typ _ payload rfl hs

/-- The last step of either builder: handing ANY list of well-formed tag images plus an 8-byte end tag to `new_boxed`
    with the generic target type yields - without panic - the header with the total patched in (`hdr'`: what `set_size`
    makes of the header is the caller's to say), then the images back to back, then the end tag; allocation size = total =
    deallocation size = number of bytes, a multiple of 8; behind the header lies the tag area. -/
theorem newBoxed_build (p : Profile) (k : HK) (hdr endI : Bytes) (imgs : List Bytes) (hwf : ∀ b ∈ imgs, WFImg b)
    (hh : hdr.length = k.hsize) (hend : endI.length = 8) (hlen : imgs.flatten.length + 8 < 2^63)
    {total : Nat} {hdr' : Bytes} (ht : total = k.hsize + imgs.flatten.length + 8) (hset : setSize k hdr total = hdr') :
    let bytes := hdr' ++ (imgs.flatten ++ endI)
    newBoxed p k (genericDesc k) hdr (imgs ++ [endI]) = .ok ⟨bytes, total, 8, total⟩ ∧
    total % 8 = 0 ∧ bytes.length = total ∧ (bytes.take total).drop k.hsize = imgs.flatten ++ endI := by
  subst hset
  intro bytes
  have hm := wf_len_mod imgs hwf
  have hk : k.hsize % 8 = 0 := by cases k <;> rfl
  have htm : total % 8 = 0 := by omega
  have hn : k.hsize + (imgs.flatten ++ endI).length = total := by
    rw [List.length_append, hend, ht]; exact (Nat.add_assoc ..).symm
  have hs := setSize_length k hdr total hh
  have hbl : bytes.length = total := by rw [List.length_append, hs, hn]
  refine ⟨?_, htm, hbl, ?_⟩
  · rw [newBoxed_eq p k _ hdr _ (by rw [List.flatten_concat, List.length_append, hend]; exact hlen)
      (genericDesc_truthful p k _ (Nat.le_add_right ..)), List.flatten_concat, hn, roundUp8_of_mod _ htm]
  · rw [List.take_of_length_le (Nat.le_of_eq hbl)]
    exact List.drop_left' hs

/-- C06, end to end on the model: handing ANY list of well-formed tag images (plus the end tag) to the final
    `new_boxed` of `Builder::build` yields - without panic - a structure whose first word is its exact byte length, whose
    length is a multiple of 8, which is allocated 8-aligned with exactly that size, which LOADS successfully
    (`BootInformation::load` model), and whose tag area is the images back to back followed by the end tag (so that, by
    `built_area_walk`, its walk is exactly the supplied tags followed by one end tag). -/
theorem build_wellformed (p : Profile) (imgs : List Bytes) (hwf : ∀ b ∈ imgs, WFImg b)
    (hlen : imgs.flatten.length + 16 < 2^32) :
    let total := 8 + imgs.flatten.length + 8
    let bytes := enc32 total ++ enc32 0 ++ (imgs.flatten ++ endImg)
    newBoxed p .bi (genericDesc .bi) (enc32 0 ++ enc32 0) (imgs ++ [endImg]) = .ok ⟨bytes, total, 8, total⟩ ∧
    bytes.length = total ∧ total % 8 = 0 ∧
    load p false bytes = .ok (.ok ⟨0, total, total⟩) ∧
    (bytes.take total).drop 8 = imgs.flatten ++ endImg := by
  intro total bytes
  have ht : total = 8 + imgs.flatten.length + 8 := rfl
  -- `hset`: `set_size` on the header `0, 0` leaves `total, 0`
  obtain ⟨hnb, htm, (hbl : bytes.length = total), harea⟩ := newBoxed_build p .bi (enc32 0 ++ enc32 0) endImg imgs hwf
    (hh := rfl) (hend := rfl) (hlen := by omega) (ht := ht) (hdr' := enc32 total ++ enc32 0) (hset := rfl)
  have h0 : le32 bytes 0 = total := by
    rw [show bytes = enc32 total ++ (enc32 0 ++ (imgs.flatten ++ endImg)) from List.append_assoc .., le32_enc32]
    exact Nat.mod_eq_of_lt (by omega)
  -- the last 8 bytes are the end tag
  have hpre : (enc32 total ++ enc32 0 ++ imgs.flatten).length = total - 8 := by
    simp only [List.length_append, enc32_length]; omega
  have hsplit : bytes = (enc32 total ++ enc32 0 ++ imgs.flatten) ++ endImg := (List.append_assoc ..).symm
  have e0 : le32 bytes (total - 8) = 0 := by rw [hsplit, le32_append_right_of _ _ 0 hpre.symm]; rfl
  have e4 : le32 bytes (total - 4) = 8 := by rw [hsplit, le32_append_right_of _ _ 4 (by omega)]; rfl
  refine ⟨hnb, hbl, htm, ?_, harea⟩
  rw [C02.load_eq_ok_iff p bytes ⟨by omega, by omega⟩, h0]
  exact ⟨rfl, by omega, htm, e0, e4⟩

/-- builder slots: an `Option` slot keeps the last tag, a `Vec` slot all tags in call order; other slots are untouched -/
theorem slot_put_same (st : BState) (slot : String) (multi : Bool) (img : Img) :
    (st.put slot multi img).get slot = if multi then st.get slot ++ [img] else [img] := by
  unfold BState.put BState.get
  simp

theorem slot_put_other (st : BState) (slot other : String) (multi : Bool) (img : Img) (h : other ≠ slot) :
    (st.put slot multi img).get other = st.get other := by
  unfold BState.put BState.get
  have h1 : (slot == other) = false := beq_false_of_ne (Ne.symm h)
  -- an entry found under `other` survives the filter that removes `slot`
  simp only [List.find?_cons, h1, List.find?_filter]
  congr 2
  funext x
  by_cases hx : x.1 = other
  · simp [hx, h]
  · simp [hx]

/-- builder-state invariant: every stored tag image is well-formed -/
def StWF (st : BState) : Prop := ∀ slot, ∀ img ∈ st.get slot, WFImg img.asBytes

theorem stwf_put (st : BState) (slot : String) (multi : Bool) (img : Img) (h : StWF st) (hw : WFImg img.asBytes) :
    StWF (st.put slot multi img) := by
  intro s
  by_cases hs : s = slot
  · subst hs
    rw [slot_put_same]
    cases multi
    · exact List.forall_mem_singleton.mpr hw
    · exact List.forall_mem_append.mpr ⟨h s, List.forall_mem_singleton.mpr hw⟩
  · rw [slot_put_other st slot s multi img hs]
    exact h s

theorem runOps_wf_of (p : Profile) (slots : List (String × Bool)) (ok : String × Bytes → Prop)
    (hok : ∀ op, ok op → ∃ img, opImg p op.1 op.2 = .ok img ∧ WFImg img.asBytes)
    (ops : List (String × Bytes)) (hops : ∀ op ∈ ops, ok op) :
    ∀ st, StWF st → ∃ st', runOps p slots st ops = .ok st' ∧ StWF st' := by
  induction ops with
  | nil => exact fun st h => ⟨st, rfl, h⟩
  | cons op rest ih =>
    intro st h
    obtain ⟨img, hi, hw⟩ := hok op (hops op List.mem_cons_self)
    unfold runOps
    rw [hi]
    exact ih (fun o ho => hops o (List.mem_cons_of_mem _ ho)) _ (stwf_put st op.1 _ img h hw)

theorem runOps_imgs_wf (p : Profile) (slots : List (String × Bool)) (ok : String × Bytes → Prop)
    (hok : ∀ op, ok op → ∃ img, opImg p op.1 op.2 = .ok img ∧ WFImg img.asBytes)
    (ops : List (String × Bytes)) (hops : ∀ op ∈ ops, ok op) :
    ∃ st, runOps p slots [] ops = .ok st ∧ ∀ b ∈ (slots.flatMap fun s => st.get s.1).map Img.asBytes, WFImg b := by
  obtain ⟨st, hrun, hst⟩ := runOps_wf_of p slots ok hok ops hops [] (fun _ _ h => nomatch h)
  refine ⟨st, hrun, fun b hb => ?_⟩
  obtain ⟨img, hmem, rfl⟩ := List.mem_map.mp hb
  obtain ⟨s, -, hi⟩ := List.mem_flatMap.mp hmem
  exact hst s.1 img hi

/-- `add_custom_tag` apart, the builder is handed what the constructor returns (`"custom"` names no constructor) -/
theorem opImg_of_ctorImpl {p : Profile} {name : String} {blob : Bytes} {img : Img}
    (h : ctorImpl p name blob = .ok img) : opImg p name blob = .ok img :=
  (if_neg fun hn => nomatch hn ▸ h).trans h

theorem boxedImg_wf {p : Profile} {typ : Nat} {desc : TyDesc} {slices : List Bytes} (n : Nat)
    (hn : slices.flatten.length = n) (ht : desc.Truthful p (8 + n)) (hlen : 8 + n < 4294967296) :
    ∃ img, boxedImg p typ desc slices = .ok img ∧ WFImg img.asBytes := by
  subst hn
  exact ⟨_, boxedImg_eq p typ desc slices (by omega) ht, sizedImg_wf typ _ hlen⟩

/-- The same for a constructor that is `boxedImg` of something. Given
    `heq := rfl`, unification with the constructor's defining equation finds type, descriptor and content slices. -/
theorem boxed_ctor_wf {p : Profile} {name : String} {blob : Bytes} {typ : Nat} {desc : TyDesc} {slices : List Bytes}
    (heq : ctorImpl p name blob = boxedImg p typ desc slices) (n : Nat)
    (hn : slices.flatten.length = n) (ht : desc.Truthful p (8 + n)) (hlen : 8 + n < 4294967296) :
    ∃ img, opImg p name blob = .ok img ∧ WFImg img.asBytes := by
  obtain ⟨img, hi, hw⟩ := boxedImg_wf (typ := typ) n hn ht hlen
  exact ⟨img, opImg_of_ctorImpl (heq.trans hi), hw⟩

theorem chunk24_len : ∀ (l : Bytes), (∀ c ∈ chunk24 l, c.length = 24) ∧ (chunk24 l).length * 24 ≤ l.length := by
  intro l
  fun_induction chunk24 l with
  | case1 => simp
  | case2 l hne hlt => simp
  | case3 l hne hge ih =>
    constructor
    · intro c hc
      rcases List.mem_cons.mp hc with h | h
      · rw [h, List.length_take]; omega
      · exact ih.1 c h
    · have := ih.2
      rw [List.length_drop] at this
      rw [List.length_cons]
      omega

/-- each 24-byte chunk becomes a 24-byte memory area (20 bytes kept, 4 reserved) -/
theorem mmap_areas_len (blob : Bytes) :
    (((chunk24 blob).map fun a => a.take 20 ++ zeros 4).flatten).length = (chunk24 blob).length * 24 := by
  have h := (chunk24_len blob).1
  generalize chunk24 blob = cs at h
  induction cs with
  | nil => rfl
  | cons c rest ih =>
    have hc := h c List.mem_cons_self
    rw [List.map_cons, List.flatten_cons, List.length_append, ih fun x hx => h x (List.mem_cons_of_mem _ hx),
      List.length_append, List.length_take, zeros_length, List.length_cons]
    omega

/-- every fixed-size information-tag constructor yields a well-formed builder image, for ALL argument values -/
theorem sized_ctor_wf : ∀ c ∈ C07.sizedCtors, ∀ (p : Profile) (blob : Bytes), c.2.2 ≤ blob.length →
    ∃ img, ctorImpl p c.1 blob = .ok img ∧ img.typ = c.2.1.typ ∧ WFImg img.asBytes := by
  intro c hc p blob hlen
  obtain ⟨payload, hi, hfix, -⟩ := C07.sized_ctor_img c hc p blob hlen
  exact ⟨_, hi, rfl, sizedImg_wf_of_eq _ _ payload hfix (C07.sized_kinds c hc).2.1⟩

/-- an operation the boot-information builder accepts (constructor preconditions as documented by their asserts) -/
def MOpOk (op : String × Bytes) : Prop :=
  op.2.length + 64 < 2^32 ∧
  ((∃ c ∈ C07.sizedCtors, c.1 = op.1 ∧ c.2.2 ≤ op.2.length) ∨
   op.1 = "cmdline" ∨ op.1 = "loader" ∨
   (op.1 = "module" ∧ 8 ≤ op.2.length ∧ le32 op.2 4 > le32 op.2 0) ∨
   op.1 = "mmap" ∨ (op.1 = "fb" ∧ 24 ≤ op.2.length) ∨ (op.1 = "elf" ∧ 12 ≤ op.2.length) ∨
   (op.1 = "smbios" ∧ 8 ≤ op.2.length) ∨ op.1 = "network" ∨
   (op.1 = "efimmap" ∧ 8 ≤ op.2.length ∧ le32 op.2 0 ≠ 0) ∨
   (op.1 = "custom" ∧ 4 ≤ op.2.length ∧ 21 < le32 op.2 0))

/-- In each case `heq` is the constructor's defining equation (`rfl`, behind its argument check if it has one), from
    which unification reads off type, descriptor and content slices; `n` is the total length of the slices; and the
    tag's type is truthful at size `8 + n`. -/
theorem mopImg_wf (p : Profile) (name : String) (blob : Bytes) (h : MOpOk (name, blob)) :
    ∃ img, opImg p name blob = .ok img ∧ WFImg img.asBytes := by
  obtain ⟨hL, h⟩ := h
  simp only at hL h
  rcases h with ⟨c, hc, rfl, hl⟩ | rfl | rfl | ⟨rfl, h8, hgt⟩ | rfl | ⟨rfl, h24⟩ | ⟨rfl, h12⟩ | ⟨rfl, h8⟩ | rfl |
    ⟨rfl, h8, hne⟩ | ⟨rfl, h4, hty⟩
  · -- the fixed-size constructors
    obtain ⟨img, hi, -, hw⟩ := sized_ctor_wf c hc p blob hl
    exact ⟨img, opImg_of_ctorImpl hi, hw⟩
  · -- cmdline
    have hs := strContent_length blob
    exact ⟨_, opImg_of_ctorImpl (C07.string_ctor p _ 1 (.inl ⟨rfl, rfl⟩) blob (by omega)), sizedImg_wf 1 _ (by omega)⟩
  · -- loader
    have hs := strContent_length blob
    exact ⟨_, opImg_of_ctorImpl (C07.string_ctor p _ 2 (.inr ⟨rfl, rfl⟩) blob (by omega)), sizedImg_wf 2 _ (by omega)⟩
  · -- module
    have hs := strContent_length (blob.drop 8)
    rw [List.length_drop] at hs
    exact boxed_ctor_wf (if_neg (not_not_intro hgt)) (8 + (strContent (blob.drop 8)).length)
      ((congrArg List.length (strSlices_flatten [slice blob 0 4, slice blob 4 4] _)).trans (by simp (disch := omega); omega))
      (bytesDesc_truthful p 16 _ (by omega)) (by omega)
  · -- mmap
    have hc := (chunk24_len blob).2
    refine boxed_ctor_wf rfl (8 + (chunk24 blob).length * 24) ?_
      (dstDesc_truthful p 16 24 _ (by omega) (by omega)) (by omega)
    simp only [List.flatten_cons, List.flatten_nil, List.length_append, enc32_length, List.length_nil, mmap_areas_len]
    omega
  · -- fb: 24 bytes of fixed fields, then the colour info, which is no longer than what is left of the blob
    have hd : (blob.drop 24).length = blob.length - 24 := List.length_drop
    -- both side conditions speak of the total length of the slices: `simp` sums it up to `32 + |info|`
    refine boxed_ctor_wf rfl _ rfl (bytesDesc_truthful p 32 _ ?_) ?_ <;>
      simp (disch := omega) only [List.flatten_cons, List.flatten_nil, List.length_append, List.length_cons, List.length_nil,
        slice_length, Nat.add_zero, Nat.zero_add, ← Nat.add_assoc, Nat.reduceAdd]
    · omega
    · -- the three forms of the colour info: palette, six rgb bytes, nothing
      split
      · rw [List.length_append, enc16_length, slice_length_eq]; omega
      · split
        · rw [List.length_take]; omega
        · rw [List.length_nil]; omega
  · -- elf
    exact boxed_ctor_wf rfl blob.length (by simp (disch := omega); omega) (bytesDesc_truthful p 20 _ (by omega)) (by omega)
  · -- smbios
    exact boxed_ctor_wf rfl blob.length (by simp; omega) (bytesDesc_truthful p 16 _ (by omega)) (by omega)
  · -- network
    exact boxed_ctor_wf rfl blob.length (by simp) (networkDesc_truthful p _ (by omega)) (by omega)
  · -- efimmap
    exact boxed_ctor_wf (if_neg hne) blob.length (by simp (disch := omega); omega) (bytesDesc_truthful p 16 _ (by omega))
      (by omega)
  · -- custom: `add_custom_tag` wraps the bytes behind the type word into a generic tag
    obtain ⟨img, hi, hw⟩ := boxedImg_wf (p := p) (typ := le32 blob 0) (desc := genericDesc .tag)
      (slices := [blob.drop 4]) (blob.length - 4) (by simp)
      (genericDesc_truthful p .tag _ (Nat.le_add_right ..)) (by omega)
    refine ⟨img, ?_, hw⟩
    unfold opImg
    rw [if_pos rfl, if_neg (by omega)]
    exact hi

/-- C06 END TO END (model): for EVERY sequence of accepted builder operations (any of the 22 slots, any argument values
    meeting the constructors' documented preconditions, any order, any repetitions), `Builder::build` stores per slot the
    image(s) of the calls (last call for `Option` slots, all calls in order for the repeatable ones), every stored image
    is well-formed, and - unless the result would exceed the 32-bit size field - the built structure
    (a) is produced without panic with allocation size = total size = deallocation size, 8-aligned;
    (b) has a first word equal to its byte count, a multiple of 8;
    (c) loads successfully; and
    (d) its tag walk yields exactly the stored tags, in slot order, followed by exactly one end tag. -/
theorem buildMbi_wellformed (p : Profile) (ops : List (String × Bytes)) (hops : ∀ op ∈ ops, MOpOk op) :
    ∃ st, runOps p mbiSlots [] ops = .ok st ∧
      let imgs := (mbiSlots.flatMap fun s => st.get s.1).map Img.asBytes
      (∀ b ∈ imgs, WFImg b) ∧
      (imgs.flatten.length + 16 < 2^32 →
        let total := 8 + imgs.flatten.length + 8
        let bytes := enc32 total ++ enc32 0 ++ (imgs.flatten ++ endImg)
        buildMbi p ops = .ok ⟨bytes, total, 8, total⟩ ∧
        bytes.length = total ∧ total % 8 = 0 ∧
        load p false bytes = .ok (.ok ⟨0, total, total⟩) ∧
        Spec.tagsOf .tag ((bytes.take total).drop 8) =
          (itemsOf .tag imgs 0 ++ [⟨imgs.flatten.length, 0, 8, 0⟩], .done)) := by
  obtain ⟨st, hrun, hwf⟩ := runOps_imgs_wf p mbiSlots MOpOk (fun op h => mopImg_wf p op.1 op.2 h) ops hops
  refine ⟨st, hrun, hwf, fun hlen => ?_⟩
  obtain ⟨hnb, hbl, htm, hload, harea⟩ := build_wellformed p _ hwf hlen
  refine ⟨?_, hbl, htm, hload, ?_⟩
  · unfold buildMbi
    -- spelt out: left to `exact`, unfolding the bind and the end image to meet `hnb` is slow
    rw [hrun, Res.bind_ok, show (sizedImg 0 8 []).asBytes = endImg from rfl]
    exact hnb
  · rw [harea]
    exact built_area_walk .tag endImg rfl rfl _ hwf

/-! Non-vacuity: the walk of a built area; a concrete accepted operation sequence builds -/
example : Spec.tagsOf .tag ([4,0,0,0, 16,0,0,0, 1,0,0,0, 2,0,0,0] ++ endImg) = ([⟨0, 4, 16, 8⟩, ⟨16, 0, 8, 0⟩], .done) := by decide
example : MOpOk ("meminfo", [1,0,0,0, 2,0,0,0]) := ⟨by simp, Or.inl ⟨("meminfo", .meminfo, 8), by simp [C07.sizedCtors], rfl, by simp⟩⟩
example : (buildMbi .dev [("meminfo", [1,0,0,0, 2,0,0,0]), ("cmdline", [104, 105])]).isOk = true := by decide

end Mb2.C06
