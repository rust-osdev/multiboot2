/-
  Whole impl blocks as tables. `tools/gen_fns.py` (IMPL_TABLES) emits for an impl block of /repo every function in source
  order with its return type, its translated body and the inputs the body depends on (`Gen.Fns.tbl_*`). Each `tbl_*_eq` of the
  `FnsTbl*` modules compares the generated table with the expected one, written out once by a script and then reviewed row by
  row: a forwarder that names another tag type or field, a changed body, and any function added to or removed from the block
  breaks it.

  Here: what `tblRow` / `tblVars` return on a table that is written out, the first row whose name matches. With these a lookup of
  the FIRST row of a block (`new`, the only `eq` / `from`) needs no string comparison at all, the name is matched as a literal,
  and the row behind it costs one (`tblRow_tail (by decide)`); neither restates the row. A row deep in a long table, and a
  statement about many rows at once, is read by evaluation (`decide +kernel`: a fixed table).
-/
import Mb2.Props.FnsTblBase
open Mb2 Mb2.Rir

namespace Mb2.Fns

section
variable (n k : String) (e : Option E) (vs al : List String) (l : List (String × String × Option E × List String × List String))

theorem tblRow_head : tblRow (some ((n, k, e, vs, al) :: l)) n = e := by
  simp [tblRow, List.find?]

theorem tblVars_head : tblVars (some ((n, k, e, vs, al) :: l)) n = vs := by
  simp [tblVars, List.find?]

variable {n k e vs al l} {m : String}

theorem tblRow_tail (h : (n == m) = false) : tblRow (some ((n, k, e, vs, al) :: l)) m = tblRow (some l) m := by
  simp [tblRow, List.find?, h]

theorem tblVars_tail (h : (n == m) = false) : tblVars (some ((n, k, e, vs, al) :: l)) m = tblVars (some l) m := by
  simp [tblVars, List.find?, h]
end

end Mb2.Fns
