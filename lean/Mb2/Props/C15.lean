/-
  C15 — Casting to a (user-defined) tag type never yields a view larger than the tag.
-/
import Mb2.Tags
import Mb2.Lemmas.View
import Mb2.Lemmas.Build
-- registered under C15 in `Props/INDEX.json`: the check audits them through this module; nothing below uses them
import Mb2.Props.FnsCast
import Mb2.Props.FnsGetters
import Mb2.Props.FnsDstMbi
namespace Mb2.C15
open Mb2

/-- For ANY target type descriptor (built-in or user-defined, sized or dynamically sized, truthful or not) and any
    header kind: `cast` either panics or returns a view whose in-memory size equals the in-memory size of the generic
    tag it was made from. -/
theorem cast_size (p : Profile) (k : HK) (t : TyDesc) (size pl sov n : Nat)
    (h : castTo p k t size pl = .ok (sov, n)) :
    sov = dynSizeOfVal k pl ∧ t.baseSize ≥ k.hsize ∧ t.dstLen p size = .ok n ∧ sov = t.sizeOfVal n := by
  obtain ⟨hbase, hlen, hdyn, hsov⟩ := castTo_eq_ok_iff.mp h
  exact ⟨hsov.trans hdyn.symm, hbase, hlen, hsov⟩

/-- …for a tag produced by the iterator (payload length = size − 8, size ≥ 8) that is the tag's own size rounded up to 8 -/
theorem cast_view_is_tag_extent (p : Profile) (k : HK) (hk : k.hsize = 8) (t : TyDesc) (size sov n : Nat) (hs : 8 ≤ size)
    (h : castTo p k t size (size - 8) = .ok (sov, n)) : sov = roundUp8 size :=
  (cast_size p k t size (size - 8) sov n h).1.trans (dynSizeOfVal_sub8 k hk size hs)

/-- the fat pointer has the same address as the tag: the model's `View` is created at the item's offset -/
theorem getTag_same_address (p : Profile) (area : Bytes) (k : Kind) (v : View) (h : getTag p area k = .ok (some v)) :
    ∃ it ∈ (tagsOf p .tag area).1, it.off = v.off ∧ it.size = v.size ∧ it.typ = k.typ ∧
      castTo p .tag k.desc it.size it.pl = .ok (v.sov, v.n) := by
  obtain ⟨it, hf, ho, hs, hc⟩ := firstCast_eq_some.mp h
  exact ⟨it, List.mem_of_find?_eq_some hf, ho, hs, (find?_typ_eq_some hf).1, hc⟩

/-- size_of_val formula of a truthful dynamically sized type: header-aligned struct with tail elements of size `e` -/
theorem dst_truthful (base e size : Nat) (hb : base ≤ size) (hr : (size - base) % e = 0) (he : 0 < e) (p : Profile) :
    ∃ n, (dstDesc base e).dstLen p size = .ok n ∧ (dstDesc base e).sizeOfVal n = roundUp8 size :=
  dstDesc_truthful p base e size hb hr

/-! Non-vacuity: a sized custom type (16 bytes) over tags of size 12 (inside the 16-byte extent) and 24 (panic) -/
example : castTo .dev .tag (sizedDesc 16) 12 4 = .ok (16, 0) := by decide
example : castTo .dev .tag (sizedDesc 16) 24 16 = .panic := by decide
example : castTo .dev .tag (dstDesc 8 3) 14 6 = .ok (16, 2) := by decide
example : castTo .dev .tag (dstDesc 8 3) 15 7 = .panic := by decide

end Mb2.C15
