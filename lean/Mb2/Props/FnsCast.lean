/-
  SOURCE = MODEL for `DynSizedStructure::cast`, `TagIter::new`, `Header::set_size` of the four header kinds, and the pinned
  bodies of `clone_dyn`, `as_bytes`, `payload`, `header` (multiboot2-common).
-/
import Mb2.Props.FnsBase
import Mb2.Props.FnsGetters
open Mb2 Mb2.Rir

namespace Mb2.Fns

/-- `cast::<T>()`: panics unless `T::BASE_SIZE >= size_of::<H>()`, then panics unless `size_of_val(self) == size_of_val(t_ref)`,
    in BOTH profiles (no `debug_assert`), else the typed reference - the two gates of the model's `castTo` -/
theorem cast_eq (p : Profile) (base hs sovSelf sovT : Nat) (tref : V) :
    evalO p [.int .usize base, .int .usize hs, .int .usize sovSelf, .int .usize sovT, tref] Gen.Fns.cast =
      some (if ¬ base ≥ hs then .panic else if sovSelf ≠ sovT then .panic else .ok tref) := by
  simp only [Gen.Fns.cast, rir]

/-- the same decision as the model: `castTo` -/
theorem castTo_decision (p : Profile) (k : HK) (t : TyDesc) (size pl : Nat) :
    castTo p k t size pl =
      if ¬ t.baseSize ≥ k.hsize then .panic
      else (t.dstLen p size) >>= fun n => if dynSizeOfVal k pl ≠ t.sizeOfVal n then .panic else .ok (t.sizeOfVal n, n) := rfl

/-- `TagIter::new`: asserts the 8-alignment of the buffer, starts at offset 0 -/
theorem tag_iter_new_eq (p : Profile) (ao : Nat) (mem : V) :
    evalO p [.int .usize ao, mem] Gen.Fns.tag_iter_new = some (if ao = 0 then .ok (.pair (.lit 0) mem) else .panic) := by
  simp only [Gen.Fns.tag_iter_new, rir]

/-! `set_size` of the three 8-byte headers (`TagHeader`, `BootInformationHeader`, `HeaderTagHeader`): the size field becomes
  `total_size as u32` - nothing is rounded (`setSize`) -/

theorem tag_header_set_size_eq (p : Profile) (t : Nat) :
    evalO p [.int .usize t] Gen.Fns.tag_header_set_size = some (.ok (.pair .unit (.int .u32 (t % W32)))) := rfl

theorem bi_header_set_size_eq (p : Profile) (t : Nat) :
    evalO p [.int .usize t] Gen.Fns.bi_header_set_size = some (.ok (.pair .unit (.int .u32 (t % W32)))) := rfl

theorem ht_header_set_size_eq (p : Profile) (t : Nat) :
    evalO p [.int .usize t] Gen.Fns.ht_header_set_size = some (.ok (.pair .unit (.int .u32 (t % W32)))) := rfl

/-- `Multiboot2BasicHeader::set_size`: the length AND the checksum recomputed for it (`setSize .hb`) -/
theorem hb_header_set_size_eq (p : Profile) (t m a : Nat) (ha : a < W32) :
    evalO p [.int .usize t, .int .u32 m, .int .u32 a] Gen.Fns.hb_header_set_size =
      some (.ok (.pair (.pair .unit (.int .u32 (t % W32))) (.int .u32 (calcChecksum m a (t % W32))))) := by
  rw [calcChecksum_mod m a _ ha]; rfl

theorem clone_dyn_is_new_boxed_of_payload :
    pinned Gen.Fns.clone_dyn_text
      "{let payload=&tag.payload()[..tag.header().payload_len()];new_boxed(tag.header().clone(),&[payload])}" = true := pinned_of_getD rfl

theorem dyn_as_bytes_is_size_of_val :
    pinned Gen.Fns.dyn_as_bytes_text
      "{let ptr=core::ptr::addr_of!(*self);let size=size_of_val(self);let slice=unsafe{slice::from_raw_parts(ptr.cast::<u8>(),size)};BytesRef::try_from(slice).unwrap()}" = true := pinned_of_getD rfl

theorem dyn_payload_is_behind_header :
    pinned Gen.Fns.dyn_payload_text "{let from=size_of::<Self::Header>();&self.as_bytes()[from..]}" = true := pinned_of_getD rfl

theorem dyn_header_is_at_start :
    pinned Gen.Fns.dyn_header_text "{let ptr=core::ptr::addr_of!(*self);unsafe{&*ptr.cast::<Self::Header>()}}" = true := pinned_of_getD rfl

end Mb2.Fns
