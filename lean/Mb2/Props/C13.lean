/-
  C13 — Searching a binary image for the header is exact and total.
-/
import Mb2.Spec
import Mb2.Lemmas.Bytes
import Mb2.Lemmas.Res
-- registered under C13 in `Props/INDEX.json`: the check audits them through this module; nothing below uses them
import Mb2.Props.FnsFind
namespace Mb2.C13
open Mb2

theorem u8A_toArray (b : Bytes) (i : Nat) : Spec.u8A b.toArray i = u8At b i := by
  unfold Spec.u8A u8At; simp

theorem le32A_toArray (b : Bytes) (i : Nat) : Spec.le32A b.toArray i = le32 b i := by
  unfold Spec.le32A le32; simp [u8A_toArray]

/-- the linear scan of the model is the least-index search of the specification -/
theorem scan_eq_first (buf : Bytes) (w : Nat) (hw : w ≤ buf.length) :
    ∀ (l : Bytes) (i : Nat), l = buf.drop i →
      scanMagic l i w = (List.range' i (w - 3 - i)).find? (fun j => Spec.le32A buf.toArray j == HMAGIC) := by
  intro l
  induction l with
  | nil =>
    intro i hl
    have := List.drop_eq_nil_iff.mp hl.symm
    rw [show w - 3 - i = 0 by omega]; rfl
  | cons a rest ih =>
    intro i hl
    rw [scanMagic]
    by_cases h : i + 4 ≤ w
    · -- `hl` turns the head word `le32 (a :: rest) 0` into `le32 (buf.drop i) 0`, which `le32_drop` reads as `le32 buf i`
      rw [if_pos h, show w - 3 - i = (w - 3 - (i + 1)) + 1 by omega, List.range'_succ, List.find?_cons, le32A_toArray,
        hl, le32_drop, Nat.add_zero, ← ih (i + 1) (by rw [← List.tail_drop, ← hl]; rfl)]
      by_cases hm : le32 buf i = HMAGIC
      · rw [if_pos hm, beq_iff_eq.mpr hm]
      · rw [if_neg hm, beq_eq_false_iff_ne.mpr hm]
    · rw [if_neg h, show w - 3 - i = 0 by omega]; rfl

/-- what `find?` over `range'` means: the least index in the window whose four bytes are the magic -/
theorem first_some_iff (buf : Bytes) (w i : Nat) :
    Spec.firstMagic buf w = some i ↔
      (i + 4 ≤ w ∧ le32 buf i = HMAGIC ∧ ∀ j, j < i → le32 buf j ≠ HMAGIC) := by
  unfold Spec.firstMagic
  simp only [List.find?_range'_eq_some, le32A_toArray, List.mem_range'_1, beq_iff_eq, Bool.not_eq_eq_eq_not,
    Bool.not_true, beq_eq_false_iff_ne]
  constructor
  · rintro ⟨hmagic, hwin, hfirst⟩
    exact ⟨by omega, hmagic, fun j hj => hfirst j (by omega) hj⟩
  · rintro ⟨hwin, hmagic, hfirst⟩
    exact ⟨hmagic, by omega, fun j _ hj => hfirst j hj⟩

theorem first_none_iff (buf : Bytes) (w : Nat) :
    Spec.firstMagic buf w = none ↔ ∀ j, j + 4 ≤ w → le32 buf j ≠ HMAGIC := by
  unfold Spec.firstMagic
  simp only [List.find?_eq_none, List.mem_range', le32A_toArray, beq_iff_eq]
  constructor
  · intro h j hj; exact h j ⟨j, by omega, by omega⟩
  · rintro h j ⟨k, hk, rfl⟩; exact h _ (by omega)

theorem scan_eq_firstMagic (buf : Bytes) :
    scanMagic buf 0 (min buf.length 8192) = Spec.firstMagic buf (min buf.length 8192) :=
  scan_eq_first buf _ (Nat.min_le_left _ _) buf 0 rfl

/-- outcome of the model, projected to what the property fixes -/
def project : Res (Ex HLoadErr (Option (Nat × Nat))) → Option Spec.FindExpect
  | .ok (.ok none) => some .none_
  | .ok (.ok (some (i, l))) => some (.some_ i l)
  | .ok (.error _) => some .error
  | _ => none

/-- C13: for every buffer (8-aligned start), the modelled `find_header` never panics or faults and returns exactly
    what the specification prescribes: no header iff the magic does not occur in the first min(len, 8192) bytes;
    otherwise with `i` the first occurrence the sub-slice `[i, i + stored length)` when `i` is a multiple of 8 and
    the range lies inside the buffer, and an error when `i` is misaligned or the header is truncated. -/
theorem findHeader_meets_spec (buf : Bytes) : project (findHeader buf) = some (Spec.find buf) := by
  simp only [findHeader, Spec.find, scan_eq_firstMagic]
  cases Spec.firstMagic buf (min buf.length 8192) with
  | none => rfl
  | some i => simp only [apply_ite project, apply_ite some]; rfl

/-- no header is reported iff the magic does not occur in the window -/
theorem none_iff (buf : Bytes) :
    findHeader buf = .ok (.ok none) ↔ ∀ j, j + 4 ≤ min buf.length 8192 → le32 buf j ≠ HMAGIC := by
  rw [← first_none_iff]
  simp only [findHeader, scan_eq_firstMagic]
  cases Spec.firstMagic buf (min buf.length 8192) with
  | none => simp
  | some i => simp only [apply_ite (· = Res.ok (Ex.ok none))]; simp

/-- a returned sub-slice is the first occurrence, aligned, and inside the buffer -/
theorem some_sound (buf : Bytes) (i l : Nat) (h : findHeader buf = .ok (.ok (some (i, l)))) :
    i + 4 ≤ min buf.length 8192 ∧ le32 buf i = HMAGIC ∧ (∀ j, j < i → le32 buf j ≠ HMAGIC) ∧
    i % 8 = 0 ∧ l = le32 buf (i + 8) ∧ i + l ≤ buf.length := by
  simp only [findHeader, scan_eq_firstMagic] at h
  cases hfm : Spec.firstMagic buf (min buf.length 8192) with
  | none => rw [hfm] at h; cases h
  | some k =>
    -- every rejecting branch differs from a returned sub-slice: what is left is the negation of its condition
    rw [hfm] at h
    simp only [ite_eq_iff_of_ne, ne_eq, Res.ok.injEq, Ex.ok.injEq, reduceCtorEq, not_false_eq_true, Option.some.injEq,
      Prod.mk.injEq] at h
    obtain ⟨c1, c2, c3, rfl, rfl⟩ := h
    obtain ⟨hwin, hmagic, hfirst⟩ := (first_some_iff buf _ k).mp hfm
    exact ⟨hwin, hmagic, hfirst, by omega, rfl, by omega⟩

/-! Non-vacuity -/
example : findHeader ([0,0,0,0,0,0,0,0, 0xd6,0x50,0x52,0xe8, 0,0,0,0, 8,0,0,0, 0,0,0,0]) = .ok (.ok (some (8, 8))) := by decide
example : findHeader [1,2,3] = .ok (.ok none) := by decide
example : findHeader ([0, 0xd6,0x50,0x52,0xe8, 0,0,0]) = .ok (.error (.memory .wrongAlignment)) := by decide

end Mb2.C13
