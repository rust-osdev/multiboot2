/-
  SOURCE = MODEL for the heap-built constructors (strings, module, SMBIOS, network, information request): the header handed
  to `new_boxed` (type through `Tag::ID`, for the information request the literal `HeaderTagType::InformationRequest`; size 0 - `new_boxed`
  patches it) and the content slices IN ORDER; for the three
  string constructors the rule "append a NUL unless the text already ends in one" (`strContent` / `ctorImpl "cmdline" |
  "loader" | "module"`); `ModuleTag::new` panics unless `end > start`.

  The proofs are by `rfl`: these bodies only build a value from their inputs, so once the `bool` is a constructor both sides
  are closed up to the variables (`module_new`: behind its one decision, `cond_decide`); the `rir` set does the same at about
  three times the cost.
-/
import Mb2.Props.FnsBase
import Mb2.Props.FnsCtor
open Mb2 Mb2.Rir

namespace Mb2.Fns

/-- content slices as the translator encodes them: right-nested pairs, and a list of one slice `[a]` as `(a, ())` -/
def slicesV : List V → V
  | [] => .unit
  | [a] => .pair a .unit
  | a :: rest => .pair a (tuple rest)

def boxedV (hdr : V) (slices : List V) : V := .c1 "new_boxed" (.pair hdr (slicesV slices))

theorem cmdline_new_eq (p : Profile) (endsWithNul : Bool) (text nul : V) :
    evalO p [.bool endsWithNul, text, nul] Gen.Fns.cmdline_new =
      some (.ok (boxedV (mbiHdrV (Kind.typ .cmdline) 0) (if endsWithNul then [text] else [text, nul]))) := by
  cases endsWithNul <;> rfl

theorem loader_new_eq (p : Profile) (endsWithNul : Bool) (text nul : V) :
    evalO p [.bool endsWithNul, text, nul] Gen.Fns.loader_new =
      some (.ok (boxedV (mbiHdrV (Kind.typ .loader) 0) (if endsWithNul then [text] else [text, nul]))) := by
  cases endsWithNul <;> rfl

theorem module_new_eq (p : Profile) (e s : Nat) (endsWithNul : Bool) (sb eb text nul : V) :
    evalO p [.int .u32 e, .int .u32 s, .bool endsWithNul, sb, eb, text, nul] Gen.Fns.module_new =
      some (if e > s then
              .ok (boxedV (mbiHdrV (Kind.typ .module) 0) (if endsWithNul then [sb, eb, text] else [sb, eb, text, nul]))
            else .panic) := by
  cases endsWithNul <;> exact congrArg some (cond_decide ..)

theorem smbios_new_eq (p : Profile) (ver reserved tables : V) :
    evalO p [ver, reserved, tables] Gen.Fns.smbios_new =
      some (.ok (boxedV (mbiHdrV (Kind.typ .smbios) 0) [ver, reserved, tables])) := rfl

theorem network_new_eq (p : Profile) (pack : V) :
    evalO p [pack] Gen.Fns.network_new = some (.ok (boxedV (mbiHdrV (Kind.typ .network) 0) [pack])) := rfl

theorem inforeq_new_eq (p : Profile) (flags reqs : V) :
    evalO p [flags, reqs] Gen.Fns.inforeq_new =
      some (.ok (boxedV (hHdrV "HeaderTagType::InformationRequest" flags 0) [reqs])) := rfl

end Mb2.Fns
