/-
  C07 — Every tag constructor emits the spec-exact binary image.
  The model `ctorImpl` transcribes each constructor (struct field order, the size CONSTANT it writes, new_boxed for the
  heap-built ones). The specification's encoding of the arguments is transcribed independently in vlib/oracle.py
  (`expected_ctor`) and compared with the REAL constructors on every generated case; the theorems below state the
  universally quantified facts about the model.

  Every information-tag image, struct literal or heap-built, is `sizedImg typ (8 + |content|) content`
  (`sized_ctor_img`, `boxed_ctor_struct`); what is said about images is said once, about `sizedImg` (`sizedImg_exact`).
-/
import Mb2.Build
import Mb2.Lemmas.Build
import Mb2.Spec
import Mb2.Props.C04Parts
namespace Mb2.C07
open Mb2

/-- the fixed-size information tags: constructor name, the kind it must produce, blob bytes consumed -/
def sizedCtors : List (String × Kind × Nat) :=
  [("meminfo", .meminfo, 8), ("bootdev", .bootdev, 12), ("apm", .apm, 20), ("efi32", .efiSdt32, 4), ("efi64", .efiSdt64, 8),
   ("efibs", .efiBs, 0), ("ih32", .efiIh32, 4), ("ih64", .efiIh64, 8), ("loadbase", .loadBase, 4), ("end", .end_, 0),
   ("rsdp1", .rsdp1, 20), ("rsdp2", .rsdp2, 33), ("vbe", .vbe, 776)]

/-- constructors whose arguments are stored contiguously in struct order: (name, kind, argument bytes) -/
def contiguousCtors : List (String × Kind × Nat) :=
  [("meminfo", .meminfo, 8), ("bootdev", .bootdev, 12), ("apm", .apm, 20), ("efi32", .efiSdt32, 4), ("efi64", .efiSdt64, 8),
   ("efibs", .efiBs, 0), ("ih32", .efiIh32, 4), ("ih64", .efiIh64, 8), ("loadbase", .loadBase, 4), ("end", .end_, 0)]

/-- The one place where the fixed-size constructors are taken apart: each writes the struct literal
    `sizedImg (type of its kind) (unpadded size of its kind) payload`, the payload fills that size, and for the
    constructors that store their arguments in order it is the argument bytes themselves. -/
theorem sized_ctor_img : ∀ c ∈ sizedCtors, ∀ (p : Profile) (blob : Bytes), c.2.2 ≤ blob.length →
    ∃ payload, ctorImpl p c.1 blob = .ok (sizedImg c.2.1.typ c.2.1.desc.fixed payload) ∧
      c.2.1.desc.fixed = 8 + payload.length ∧ (c ∈ contiguousCtors → payload = blob.take c.2.2) := by
  intro c hc p blob hlen
  -- in each case `rfl` runs the constructor; the payload it finds is a chain of slices of the blob
  rcases (List.mem_append (s := contiguousCtors) (t := [("rsdp1", .rsdp1, 20), ("rsdp2", .rsdp2, 33), ("vbe", .vbe, 776)])).mp hc
    with hc' | hc'
  · simp only [contiguousCtors, List.mem_cons, List.mem_nil_iff, or_false] at hc'
    rcases hc' with h | h | h | h | h | h | h | h | h | h <;> subst h <;> simp only at hlen <;>
      exact ⟨_, rfl,
        by simp (disch := omega) only [Kind.desc, sizedDesc, List.length_append, List.length_nil, slice_length],
        fun _ => by simp only [slice_zero, take_append_slice, List.take_zero]⟩
  · simp only [List.mem_cons, List.mem_nil_iff, or_false] at hc'
    rcases hc' with h | h | h <;> subst h <;> simp only at hlen <;>
      exact ⟨_, rfl,
        by simp (disch := omega) only [Kind.desc, sizedDesc, List.length_append, List.length_cons, List.length_nil,
             zeros_length, slice_length],
        fun h => absurd h (by decide)⟩

theorem sized_kinds : ∀ c ∈ sizedCtors, c.2.1.typ < 4294967296 ∧ c.2.1.desc.fixed < 4294967296 ∧ 8 ≤ c.2.1.desc.fixed ∧
    some c.2.1.desc.fixed = Spec.fixedSize c.2.1.typ := by decide

/-- For every fixed-size information-tag constructor and ALL argument values: the type field is the kind's ID (= the
    specification's number), the size field is the kind's exact unpadded size (= `Spec.fixedSize`), exactly that many
    bytes are initialised, the header decodes to (type, size), and the in-memory size is the size rounded up to 8
    (so `as_bytes()` is a valid 8-multiple view). -/
theorem sized_ctor_exact : ∀ c ∈ sizedCtors, ∀ (p : Profile) (blob : Bytes), c.2.2 ≤ blob.length →
    ∃ img, ctorImpl p c.1 blob = .ok img ∧ img.typ = c.2.1.typ ∧ some img.size = Spec.fixedSize c.2.1.typ ∧
      img.bytes.length = img.size ∧ le32 img.bytes 0 = img.typ ∧ le32 img.bytes 4 = img.size ∧
      img.sov = roundUp8 img.size ∧ c.2.1.desc = sizedDesc img.size := by
  intro c hc p blob hlen
  obtain ⟨payload, hi, hfix, -⟩ := sized_ctor_img c hc p blob hlen
  obtain ⟨ht, hs, -, hspec⟩ := sized_kinds c hc
  obtain ⟨hlen, htyp, hsize, hsov⟩ := sizedImg_exact _ _ payload hfix hs
  exact ⟨_, hi, rfl, hspec, hlen, htyp.trans (Nat.mod_eq_of_lt ht), hsize, hsov, C04.fixed_size_eq_spec _ _ hspec.symm⟩

/-- heap-built (dynamically sized) information tags: for ALL content slices the constructor yields the header with the
    exact size `8 + Σ|slice|` followed by the concatenated content without gaps - it never panics - provided the content
    matches the kind's element size (which every constructor guarantees by construction) -/
theorem boxed_ctor_exact (p : Profile) (typ base e : Nat) (slices : List Bytes) (he : 0 < e)
    (hb : base ≤ 8 + slices.flatten.length) (hr : (8 + slices.flatten.length - base) % e = 0)
    (hlen : slices.flatten.length < 2^62) :
    boxedImg p typ (dstDesc base e) slices =
      .ok ⟨typ, none, 8 + slices.flatten.length, mbiHdr typ (8 + slices.flatten.length) ++ slices.flatten,
           roundUp8 (8 + slices.flatten.length)⟩ :=
  boxedImg_eq p typ _ slices (by omega) (dstDesc_truthful p base e _ hb hr)

/-- A heap-built constructor whose content slices concatenate to `content`, of a type that is truthful at the resulting
    `size`: the header with that size, then the content. With `heq := rfl` unification with the constructor's defining
    equation finds type, descriptor and slices; against a goal it finds `content` and `size`. -/
theorem boxed_ctor_struct {p : Profile} {name : String} {blob : Bytes} {typ : Nat} {desc : TyDesc} {slices : List Bytes}
    {content : Bytes} {size : Nat} (heq : ctorImpl p name blob = boxedImg p typ desc slices)
    (hfl : slices.flatten = content) (hsz : 8 + content.length = size) (ht : desc.Truthful p size) (hlen : size < 2^63) :
    ctorImpl p name blob = .ok ⟨typ, none, size, mbiHdr typ size ++ content, roundUp8 size⟩ := by
  subst hfl hsz
  exact heq.trans (boxedImg_eq p typ desc slices (by omega) ht)

theorem string_ctor (p : Profile) (name : String) (typ : Nat)
    (hname : (name = "cmdline" ∧ typ = 1) ∨ (name = "loader" ∧ typ = 2)) (s : Bytes) (hlen : s.length < 2^61) :
    ctorImpl p name s = .ok (sizedImg typ (8 + (strContent s).length) (strContent s)) := by
  have hl := (strContent_length s).2
  rcases hname with ⟨rfl, rfl⟩ | ⟨rfl, rfl⟩ <;>
    exact boxed_ctor_struct (heq := rfl) (hfl := strSlices_flatten [] s) (hsz := rfl) (ht := bytesDesc_truthful p 8 _ (by omega))
      (hlen := by omega)

/-- string constructors: for a text without NUL the size is fixed part + |s| + 1 and exactly one NUL is stored -/
theorem string_ctor_no_nul (p : Profile) (name : String) (typ : Nat)
    (hname : (name = "cmdline" ∧ typ = 1) ∨ (name = "loader" ∧ typ = 2)) (s : Bytes) (hs : ∀ b ∈ s, b ≠ 0)
    (hlen : s.length < 2^61) :
    ctorImpl p name s =
      .ok ⟨typ, none, 8 + s.length + 1, mbiHdr typ (8 + s.length + 1) ++ s ++ [0], roundUp8 (8 + s.length + 1)⟩ := by
  rw [string_ctor p name typ hname s hlen, strContent_of_no_nul hs]
  simp only [sizedImg, List.length_append, List.length_singleton, List.append_assoc, Nat.add_assoc]

theorem cmdline_ctor (p : Profile) (s : Bytes) (hs : ∀ b ∈ s, b ≠ 0) (hlen : s.length < 2^61) :
    ctorImpl p "cmdline" s = .ok ⟨1, none, 8 + s.length + 1, mbiHdr 1 (8 + s.length + 1) ++ s ++ [0], roundUp8 (8 + s.length + 1)⟩ :=
  string_ctor_no_nul p _ 1 (.inl ⟨rfl, rfl⟩) s hs hlen

theorem loader_ctor (p : Profile) (s : Bytes) (hs : ∀ b ∈ s, b ≠ 0) (hlen : s.length < 2^61) :
    ctorImpl p "loader" s = .ok ⟨2, none, 8 + s.length + 1, mbiHdr 2 (8 + s.length + 1) ++ s ++ [0], roundUp8 (8 + s.length + 1)⟩ :=
  string_ctor_no_nul p _ 2 (.inr ⟨rfl, rfl⟩) s hs hlen

/-- a text that already ends in NUL is stored as it is -/
theorem cmdline_ctor_nul_terminated (p : Profile) (s : Bytes) (hl : s.getLast? = some 0) (hlen : s.length < 2^61) :
    ctorImpl p "cmdline" s = .ok ⟨1, none, 8 + s.length, mbiHdr 1 (8 + s.length) ++ s, roundUp8 (8 + s.length)⟩ := by
  rw [string_ctor p _ 1 (.inl ⟨rfl, rfl⟩) s hlen, strContent_of_nul hl]; rfl

/-! Non-vacuity -/
example : ctorImpl .dev "bootdev" [1,0,0,0, 2,0,0,0, 3,0,0,0] =
    .ok ⟨5, none, 20, [5,0,0,0, 20,0,0,0, 1,0,0,0, 2,0,0,0, 3,0,0,0], 24⟩ := by decide

end Mb2.C07
