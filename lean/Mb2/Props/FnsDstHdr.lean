/-
  SOURCE = MODEL for `InformationRequestHeaderTag::dst_len` (multiboot2-header/src/information_request.rs).
-/

import Mb2.Props.FnsBase
open Mb2 Mb2.Rir

namespace Mb2.Fns

theorem dst_len_information_request_eq (p : Profile) (size : Nat) (hs : size < W32) :
    evalO p [.int .u32 size] Gen.Fns.dst_len_information_request =
      some (intRes .usize ((HKind.desc .inforeq).dstLen p size)) := by
  simp only [Gen.Fns.dst_len_information_request, rir, mod_W64_of_lt_W32 hs, HKind.desc, infoReqDesc]

end Mb2.Fns
