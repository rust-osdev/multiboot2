/-
  SOURCE = MODEL for `increase_to_alignment` (multiboot2-common/src/lib.rs).
-/

import Mb2.Props.FnsBase
open Mb2 Mb2.Rir

namespace Mb2.Fns

/-- `increase_to_alignment` (lib.rs) = `incAlign` -/
theorem increase_to_alignment_eq (p : Profile) (n : Nat) :
    evalO p [.int .usize n] Gen.Fns.increase_to_alignment = some (intRes .usize (incAlign p n)) := by
  simp only [Gen.Fns.increase_to_alignment, rir, incAlign_eq_band, usub_ok p W64 8 1 (by decide)]  -- `ALIGNMENT - 1`

end Mb2.Fns
