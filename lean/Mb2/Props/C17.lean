/-
  C17 — String tags round-trip text and apply the NUL / UTF-8 rules within the tag size.
  `C17Parts`: parsing characterisation and content round trip; `C17Ctor`: constructor -> tag image -> accessor round trip.
-/
import Mb2.Props.C17Parts
import Mb2.Props.C17Ctor
-- registered under C17 in `Props/INDEX.json`: the check audits them through this module; nothing below uses them
import Mb2.Props.FnsTblFixed
import Mb2.Props.FnsBoxedCtor
import Mb2.Props.FnsGetters
