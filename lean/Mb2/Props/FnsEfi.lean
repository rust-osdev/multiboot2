/-
  SOURCE = MODEL for `EFIMemoryMapTag::memory_areas` and `EFIMemoryAreaIter::new` / `next` / `len` (multiboot2/src/memory_map.rs).
-/

import Mb2.Props.FnsBase
open Mb2 Mb2.Rir

namespace Mb2.Fns

/-- `EFIMemoryMapTag::memory_areas` panics unless the descriptor version is `EFIMemoryDesc::VERSION` (= 1, the first check of
    `efiEntries`) and the map is aligned for `EFIMemoryDesc` (`ao` is the value of `align_offset`, zero exactly then); it
    returns what `EFIMemoryAreaIter::new` returns -/
theorem efi_memory_areas_eq (p : Profile) (ver ao : Nat) (it : V) :
    evalO p [.int .u32 ver, .int .u32 1, .int .usize ao, it] Gen.Fns.efi_memory_areas =
      some (if ver ≠ 1 then .panic else if ao ≠ 0 then .panic else .ok it) := by
  simp only [Gen.Fns.efi_memory_areas, rir]

/-- `EFIMemoryAreaIter::new` makes the other checks of `efiEntries`: descriptor size >= 40 (`size_of::<EFIMemoryDesc>()`) and
    a multiple of 8 (its `align_of`), map length divisible by it; the entry count is `len / desc_size` -/
theorem efi_iter_new_eq (p : Profile) (ds len : Nat) (tag : V) (hds : ds < W32) :
    evalO p [.int .u32 ds, .int .usize len, .int .usize 40, .int .usize 8, tag] Gen.Fns.efi_iter_new =
      some (if ds < 40 then .panic else if ds % 8 ≠ 0 then .panic else if len % ds ≠ 0 then .panic
            else .ok (.pair tag (.pair (.lit 0) (.int .usize (len / ds))))) := by
  have hz : 40 ≤ ds → ¬ ds = 0 := by omega
  simp only [Gen.Fns.efi_iter_new, rir, mod_W64_of_lt_W32 hds]
  simp +contextual only [hz, if_false]

/-- `EFIMemoryAreaIter::next`: `None` once `i >= entries`, else the descriptor and `i + 1` (= `EfiIter.next`) -/
theorem efi_iter_next_eq (p : Profile) (i n : Nat) (d : V) (hi : i < n) (hn : n < W64) :
    evalO p [.int .usize i, .int .usize n, .c1 "Some" d] Gen.Fns.efi_iter_next =
      some (.ok (.pair (.c1 "Some" d) (.int .usize (i + 1)))) := by
  simp only [Gen.Fns.efi_iter_next, rir, uadd_ok p W64 i 1 (by omega), Nat.not_le.mpr hi]

theorem efi_iter_next_done_eq (p : Profile) (i n : Nat) (d : V) (hi : n ≤ i) :
    evalO p [.int .usize i, .int .usize n, d] Gen.Fns.efi_iter_next = some (.ok (.pair (.c0 "None") (.int .usize i))) := by
  simp only [Gen.Fns.efi_iter_next, rir, hi]

/-- `ExactSizeIterator::len` = `entries - i` (`EfiIter.len`), never a panic while `i <= entries` -/
theorem efi_iter_len_eq (p : Profile) (it : EfiIter) (h : it.i ≤ it.entries) :
    evalO p [.int .usize it.i, .int .usize it.entries] Gen.Fns.efi_iter_len = some (.ok (.int .usize it.len)) := by
  simp only [Gen.Fns.efi_iter_len, rir, usub_ok p W64 _ _ h, EfiIter.len]

end Mb2.Fns
