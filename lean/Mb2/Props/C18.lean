/-
  C18 — EFI memory-map iteration honours descriptor stride, count and bounds.
  `T` is the permitted extent of the tag (`roundUp8 size` bytes), `v.n = size − 16` the map length `L`.
-/
import Mb2.Tags
import Mb2.Lemmas.Res
-- registered under C18 in `Props/INDEX.json`: the check audits them through this module; nothing below uses them
import Mb2.Props.FnsTblFixed
import Mb2.Props.FnsTblEfi
import Mb2.Props.FnsGetters
import Mb2.Props.FnsDstMbi
import Mb2.Props.FnsEfi
namespace Mb2.C18
open Mb2

/-- `memory_areas()` succeeds exactly for version 1, a descriptor size ≥ 40 that is a multiple of 8 and divides the map
    length; then it reports `L / d` entries; every other combination is a controlled panic (never a fault). -/
theorem accept_iff (T : Bytes) (v : View) (hT : 16 ≤ T.length) :
    efiEntries T v =
      (if le32 T 12 = 1 ∧ le32 T 8 ≥ 40 ∧ le32 T 8 % 8 = 0 ∧ v.n % le32 T 8 = 0
       then .ok (le32 T 8, v.n / le32 T 8) else .panic) := by
  unfold efiEntries
  rw [rd32_ok (by omega), rd32_ok (by omega), Res.bind_ok, Res.bind_ok, ite_or_same, ite_or_same, ite_or_same]
  exact ite_flip (by omega) _ _

theorem entries_ok {T : Bytes} {v : View} (hT : 16 ≤ T.length) {ds cnt : Nat} (h : efiEntries T v = .ok (ds, cnt)) :
    40 ≤ ds ∧ ds % 8 = 0 ∧ cnt * ds = v.n := by
  rw [accept_iff T v hT, Res.ite_ok_eq_ok, Prod.mk.injEq] at h
  obtain ⟨⟨-, h40, h8, hdiv⟩, rfl, rfl⟩ := h
  exact ⟨h40, h8, Nat.div_mul_cancel (Nat.dvd_of_mod_eq_zero hdiv)⟩

theorem efiDesc_eq (T : Bytes) (ds i : Nat) (hin : 16 + i * ds + 40 ≤ T.length) :
    efiDesc T ds i = .ok ⟨16 + i * ds, le32 T (16 + i * ds), le64 T (16 + i * ds + 8), le64 T (16 + i * ds + 16),
      le64 T (16 + i * ds + 24), le64 T (16 + i * ds + 32)⟩ := by
  unfold efiDesc
  simp only
  rw [rd32_ok (by omega), rd64_ok (by omega), rd64_ok (by omega), rd64_ok (by omega), rd64_ok (by omega)]
  rfl

/-- the `i`-th descriptor is decoded from the 40 bytes at map offset `i·d`; it lies inside the map (hence inside the
    tag), is 8-aligned, and reading it never leaves the tag -/
theorem desc_inside (T : Bytes) (v : View) (ds cnt i : Nat)
    (hT : 16 + v.n ≤ T.length) (hds : 40 ≤ ds) (h8 : ds % 8 = 0) (hcnt : cnt * ds = v.n) (hi : i < cnt) :
    ∃ d, efiDesc T ds i = .ok d ∧ d.off = 16 + i * ds ∧ d.off % 8 = 0 ∧ d.off + 40 ≤ 16 + v.n ∧
      d.ty = le32 T (16 + i * ds) ∧ d.phys = le64 T (16 + i * ds + 8) ∧ d.virt = le64 T (16 + i * ds + 16) ∧
      d.pages = le64 T (16 + i * ds + 24) ∧ d.att = le64 T (16 + i * ds + 32) := by
  have hb : (i + 1) * ds ≤ cnt * ds := Nat.mul_le_mul_right ds hi
  rw [Nat.succ_mul] at hb
  have hm : (i * ds) % 8 = 0 := by rw [Nat.mul_mod, h8, Nat.mul_zero]
  exact ⟨_, efiDesc_eq T ds i (by omega), rfl, by simp only; omega, by simp only; omega, rfl, rfl, rfl, rfl, rfl⟩

theorem next_state (T : Bytes) (it : EfiIter) :
    (it.next T).2 = if it.i < it.entries then { it with i := it.i + 1 } else it := by
  unfold EfiIter.next
  rw [ite_flip (d := it.i < it.entries) Nat.not_lt.symm, apply_ite Prod.snd]

theorem after_eq (T : Bytes) (it : EfiIter) (h : it.i ≤ it.entries) (k : Nat) :
    it.after T k = { it with i := min (it.i + k) it.entries } := by
  induction k generalizing it with
  | zero => show it = _; rw [Nat.add_zero, Nat.min_eq_left h]
  | succ k ih =>
    unfold EfiIter.after
    rw [next_state]
    split
    · rw [ih _ (by simp only; omega)]
      show EfiIter.mk it.ds (min (it.i + 1 + k) it.entries) it.entries = _
      rw [Nat.add_assoc, Nat.add_comm 1 k]
    · rw [ih it h, Nat.min_eq_right (by omega), Nat.min_eq_right (by omega)]

theorem index_after (T : Bytes) (it : EfiIter) (h : it.i ≤ it.entries) (k : Nat) :
    (it.after T k).i = min (it.i + k) it.entries ∧ (it.after T k).entries = it.entries ∧ (it.after T k).ds = it.ds :=
  after_eq T it h k ▸ ⟨rfl, rfl, rfl⟩

/-- the reported remaining length after `k` calls of `next` is the number of items still to come -/
theorem len_after (T : Bytes) (it : EfiIter) (h : it.i ≤ it.entries) (k : Nat) :
    (it.after T k).len = it.len - k ∧ (it.after T k).i ≤ (it.after T k).entries := by
  rw [after_eq T it h k]
  simp only [EfiIter.len]
  omega

/-- when `next` reports the end: the index has reached `entries`, or it has not and decoding the descriptor returned
    `none` (which `pure (some d)` never does) -/
theorem next_some_iff (T : Bytes) (it : EfiIter) : ((it.next T).1 = .ok none) ↔ it.i ≥ it.entries ∨ (it.i < it.entries ∧ (do let d ← efiDesc T it.ds it.i; pure (some d) : Res (Option EfiDesc)) = .ok none) := by
  unfold EfiIter.next
  by_cases h : it.i ≥ it.entries
  · rw [if_pos h]; exact iff_of_true rfl (.inl h)
  · rw [if_neg h]; exact ⟨fun e => .inr ⟨Nat.not_le.mp h, e⟩, fun e => (e.resolve_left h).2⟩

/-- Iteration yields EXACTLY `entries` descriptors: the `(k+1)`-th call of `next` (after `k` calls on a fresh iterator)
    returns the descriptor decoded at map offset `k·d` when `k < entries`, and `None` - forever - when `k ≥ entries`. -/
theorem kth_next (T : Bytes) (ds entries k : Nat) :
    let it : EfiIter := ⟨ds, 0, entries⟩
    ((it.after T k).next T).1 =
      (if k < entries then (do let d ← efiDesc T ds k; pure (some d)) else .ok none) := by
  show ((EfiIter.after T ⟨ds, 0, entries⟩ k).next T).1 = _
  rw [after_eq T _ (Nat.zero_le _) k]
  unfold EfiIter.next
  simp only [Nat.zero_add]
  by_cases c : k < entries
  · rw [if_neg (by omega), if_pos c, Nat.min_eq_left (by omega)]
  · rw [if_pos (by omega), if_neg c]

/-! Non-vacuity -/
example : efiEntries ([17,0,0,0, 56,0,0,0, 40,0,0,0, 1,0,0,0] ++ List.replicate 40 7) ⟨0, 56, 56, 40⟩ = .ok (40, 1) := by decide
example : efiEntries ([17,0,0,0, 24,0,0,0, 8,0,0,0, 1,0,0,0] ++ List.replicate 8 7) ⟨0, 24, 24, 8⟩ = .panic := by decide

end Mb2.C18
