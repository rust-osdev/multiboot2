/-
  SOURCE = MODEL, the remaining inherent impl blocks as tables (see `FnsTblLookup.lean`, DESIGN 15.10, 15.15): the fixed-size
  boot-information tags (every accessor returns the field of its own name; the EFI pointer tags return `pointer` widened to
  usize), and the inherent impls of `TagIter`, `EFIMemoryAreaIter`, `TagType`, `CommandLineTag`, `NetworkTag` (their functions
  have their own `*_eq` theorems or text pins: the table pins the method SET - an added inherent method could shadow a trait method such as
  `MaybeDynSized::payload`).
-/

import Mb2.Gen.Fns
open Mb2 Mb2.Rir

namespace Mb2.Fns


-- BEGIN TABLES (generated once by a script from the unchanged tree, then REVIEWED row by row)
theorem tbl_tag_iter_eq : Gen.Fns.tbl_tag_iter = some [
  ("new->Self", "covered", none, [], [])] := rfl

theorem tbl_apm_eq : Gen.Fns.tbl_apm = some [
  ("new->Self", "covered", none, [], []),
  ("version->u16", "ir", some (.var 0), ["self.version"], []),
  ("cseg->u16", "ir", some (.var 0), ["self.cseg"], []),
  ("offset->u32", "ir", some (.var 0), ["self.offset"], []),
  ("cset_16->u16", "ir", some (.var 0), ["self.cset_16"], []),
  ("dseg->u16", "ir", some (.var 0), ["self.dseg"], []),
  ("flags->u16", "ir", some (.var 0), ["self.flags"], []),
  ("cseg_len->u16", "ir", some (.var 0), ["self.cseg_len"], []),
  ("cseg_16_len->u16", "ir", some (.var 0), ["self.cseg_16_len"], []),
  ("dseg_len->u16", "ir", some (.var 0), ["self.dseg_len"], [])] := rfl

theorem tbl_bootdev_eq : Gen.Fns.tbl_bootdev = some [
  ("new->Self", "covered", none, [], []),
  ("biosdev->u32", "ir", some (.var 0), ["self.biosdev"], []),
  ("slice->u32", "ir", some (.var 0), ["self.slice"], []),
  ("part->u32", "ir", some (.var 0), ["self.part"], [])] := rfl

theorem tbl_cmdline_eq : Gen.Fns.tbl_cmdline = some [
  ("new->Box<Self>", "covered", none, [], []),
  ("cmdline->Result<&str,StringError>", "covered", none, [], [])] := rfl

theorem tbl_efi_sdt32_eq : Gen.Fns.tbl_efi_sdt32 = some [
  ("new->Self", "covered", none, [], []),
  ("sdt_address->usize", "ir", some (.cast (.var 0) .usize), ["self.pointer"], [])] := rfl

theorem tbl_efi_sdt64_eq : Gen.Fns.tbl_efi_sdt64 = some [
  ("new->Self", "covered", none, [], []),
  ("sdt_address->usize", "ir", some (.cast (.var 0) .usize), ["self.pointer"], [])] := rfl

theorem tbl_efi_ih32_eq : Gen.Fns.tbl_efi_ih32 = some [
  ("new->Self", "covered", none, [], []),
  ("image_handle->usize", "ir", some (.cast (.var 0) .usize), ["self.pointer"], [])] := rfl

theorem tbl_efi_ih64_eq : Gen.Fns.tbl_efi_ih64 = some [
  ("new->Self", "covered", none, [], []),
  ("image_handle->usize", "ir", some (.cast (.var 0) .usize), ["self.pointer"], [])] := rfl

theorem tbl_load_base_eq : Gen.Fns.tbl_load_base = some [
  ("new->Self", "covered", none, [], []),
  ("load_base_addr->u32", "ir", some (.var 0), ["self.load_base_addr"], [])] := rfl

theorem tbl_meminfo_eq : Gen.Fns.tbl_meminfo = some [
  ("new->Self", "covered", none, [], []),
  ("memory_lower->u32", "ir", some (.var 0), ["self.memory_lower"], []),
  ("memory_upper->u32", "ir", some (.var 0), ["self.memory_upper"], [])] := rfl

theorem tbl_efi_iter_inherent_eq : Gen.Fns.tbl_efi_iter_inherent = some [
  ("new->Self", "covered", none, [], [])] := rfl

theorem tbl_network_eq : Gen.Fns.tbl_network = some [
  ("new->Box<Self>", "covered", none, [], [])] := rfl

theorem tbl_tag_type_eq : Gen.Fns.tbl_tag_type = some [
  ("val->u32", "covered", none, [], [])] := rfl

theorem tbl_vbe_eq : Gen.Fns.tbl_vbe = some [
  ("new->Self", "covered", none, [], []),
  ("mode->u16", "ir", some (.var 0), ["self.mode"], []),
  ("interface_segment->u16", "ir", some (.var 0), ["self.interface_segment"], []),
  ("interface_offset->u16", "ir", some (.var 0), ["self.interface_offset"], []),
  ("interface_length->u16", "ir", some (.var 0), ["self.interface_length"], []),
  ("control_info->VBEControlInfo", "ir", some (.var 0), ["self.control_info"], []),
  ("mode_info->VBEModeInfo", "ir", some (.var 0), ["self.mode_info"], [])] := rfl

-- END TABLES

end Mb2.Fns
