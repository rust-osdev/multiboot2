/-
  The impl blocks (as tables, see `FnsTblLookup.lean`) of `BootInformation` and `BootInformationHeader`
  (multiboot2/src/boot_information.rs), `TagHeader` (tag.rs), and from multiboot2-common `DynSizedStructure`,
  `Deref for BytesRef` and the traits `MaybeDynSized`, `Header`.
-/

import Mb2.Props.FnsTblBase
open Mb2 Mb2.Rir

namespace Mb2.Fns


-- BEGIN TABLES (generated once by a script from the unchanged tree, then REVIEWED row by row)
theorem tbl_mbi_eq : Gen.Fns.tbl_mbi = some [
  ("load->Result<Self,LoadError>", "covered", none, [], []),
  ("has_valid_end_tag->bool", "covered", none, [], []),
  ("start_address->usize", "ir", some (.cast (.var 0) .usize), ["self.as_ptr()"], []),
  ("as_ptr->*const()", "ir", some (.var 0), ["core::ptr::addr_of!(*self.0).cast()"], []),
  ("end_address->usize", "ir", some (.bin .add (.var 0) (.var 1)), ["self.start_address()", "self.total_size()"], []),
  ("total_size->usize", "ir", some (.cast (.var 0) .usize), ["self.0.header().total_size"], []),
  ("apm_tag->Option<&ApmTag>", "ir", some (.var 0), ["self.get_tag::<ApmTag>()"], []),
  ("basic_memory_info_tag->Option<&BasicMemoryInfoTag>", "ir", some (.var 0), ["self.get_tag::<BasicMemoryInfoTag>()"], []),
  ("boot_loader_name_tag->Option<&BootLoaderNameTag>", "ir", some (.var 0), ["self.get_tag::<BootLoaderNameTag>()"], []),
  ("bootdev_tag->Option<&BootdevTag>", "ir", some (.var 0), ["self.get_tag::<BootdevTag>()"], []),
  ("command_line_tag->Option<&CommandLineTag>", "ir", some (.var 0), ["self.get_tag::<CommandLineTag>()"], []),
  ("efi_bs_not_exited_tag->Option<&EFIBootServicesNotExitedTag>", "ir", some (.var 0), ["self.get_tag::<EFIBootServicesNotExitedTag>()"], []),
  ("efi_memory_map_tag->Option<&EFIMemoryMapTag>", "covered", none, [], []),
  ("efi_sdt32_tag->Option<&EFISdt32Tag>", "ir", some (.var 0), ["self.get_tag::<EFISdt32Tag>()"], []),
  ("efi_sdt64_tag->Option<&EFISdt64Tag>", "ir", some (.var 0), ["self.get_tag::<EFISdt64Tag>()"], []),
  ("efi_ih32_tag->Option<&EFIImageHandle32Tag>", "ir", some (.var 0), ["self.get_tag::<EFIImageHandle32Tag>()"], []),
  ("efi_ih64_tag->Option<&EFIImageHandle64Tag>", "ir", some (.var 0), ["self.get_tag::<EFIImageHandle64Tag>()"], []),
  ("elf_sections->Option<ElfSectionIter>", "covered", none, [], []),
  ("elf_sections_tag->Option<&ElfSectionsTag>", "ir", some (.var 0), ["self.get_tag()"], []),
  ("framebuffer_tag->Option<Result<&FramebufferTag,UnknownFramebufferType>>", "covered", none, [], []),
  ("load_base_addr_tag->Option<&ImageLoadPhysAddrTag>", "ir", some (.var 0), ["self.get_tag::<ImageLoadPhysAddrTag>()"], []),
  ("memory_map_tag->Option<&MemoryMapTag>", "ir", some (.var 0), ["self.get_tag::<MemoryMapTag>()"], []),
  ("module_tags->ModuleIter", "covered", none, [], []),
  ("network_tag->Option<&NetworkTag>", "ir", some (.var 0), ["self.get_tag::<NetworkTag>()"], []),
  ("rsdp_v1_tag->Option<&RsdpV1Tag>", "ir", some (.var 0), ["self.get_tag::<RsdpV1Tag>()"], []),
  ("rsdp_v2_tag->Option<&RsdpV2Tag>", "ir", some (.var 0), ["self.get_tag::<RsdpV2Tag>()"], []),
  ("smbios_tag->Option<&SmbiosTag>", "ir", some (.var 0), ["self.get_tag::<SmbiosTag>()"], []),
  ("vbe_info_tag->Option<&VBEInfoTag>", "ir", some (.var 0), ["self.get_tag::<VBEInfoTag>()"], []),
  ("get_tag->Option<&'aT>", "covered", none, [], []),
  ("tags->TagIter", "covered", none, [], [])] := rfl

theorem tbl_bih_eq : Gen.Fns.tbl_bih = some [
  ("new->Self", "ir", some (.pair (.var 0) (.lit 0)), ["total_size"], []),
  ("total_size->u32", "ir", some (.var 0), ["self.total_size"], [])] := rfl

theorem tbl_tag_header_eq : Gen.Fns.tbl_tag_header = some [
  ("new->Self", "ir", some (.pair (.var 0) (.var 1)), ["typ.into()", "size"], [])] := rfl

theorem tbl_dyn_eq : Gen.Fns.tbl_dyn = some [
  ("ref_from_bytes->Result<&Self,MemoryError>", "covered", none, [], []),
  ("ref_from_slice->Result<&Self,MemoryError>", "covered", none, [], []),
  ("ref_from_ptr->Result<&'aSelf,MemoryError>", "covered", none, [], []),
  ("header->&H", "ir", some (.var 0), ["self.header"], []),
  ("payload->&[u8]", "ir", some (.var 0), ["self.payload"], []),
  ("cast->&T", "covered", none, [], [])] := rfl

theorem tbl_bytes_ref_deref_eq : Gen.Fns.tbl_bytes_ref_deref = some [
  ("deref->&Self::Target", "ir", some (.var 0), ["self.bytes"], [])] := rfl

theorem tbl_maybe_dyn_sized_eq : Gen.Fns.tbl_maybe_dyn_sized = some [
  ("dst_len->Self::Metadata", "decl", none, [], []),
  ("header->&Self::Header", "covered", none, [], []),
  ("payload->&[u8]", "covered", none, [], []),
  ("as_bytes->BytesRef<Self::Header>", "covered", none, [], []),
  ("as_ptr->*constSelf::Header", "ir", some (.var 0), ["self.as_bytes().as_ptr().cast()"], [])] := rfl

theorem tbl_header_trait_eq : Gen.Fns.tbl_header_trait = some [
  ("payload_len->usize", "decl", none, [], []),
  ("total_size->usize", "covered", none, [], []),
  ("set_size->()", "decl", none, [], [])] := rfl

-- END TABLES

/-! ### what the pinned rows mean -/

/-- the plain typed getters of `BootInformation` - seventeen here, `elf_sections_tag` in the next theorem - are `get_tag::<T>()`
    at the tag type their return type names (`get_tag` = first tag in walk order whose type is `T::ID`: `mbi_get_tag_is_first_match`;
    `T::ID` = the specification's number: `Layout.ids_match`) -/
theorem mbi_typed_getters_forward :
    ∀ gt ∈ [("apm_tag", "ApmTag"), ("basic_memory_info_tag", "BasicMemoryInfoTag"), ("boot_loader_name_tag", "BootLoaderNameTag"),
            ("bootdev_tag", "BootdevTag"), ("command_line_tag", "CommandLineTag"),
            ("efi_bs_not_exited_tag", "EFIBootServicesNotExitedTag"), ("efi_sdt32_tag", "EFISdt32Tag"),
            ("efi_sdt64_tag", "EFISdt64Tag"), ("efi_ih32_tag", "EFIImageHandle32Tag"), ("efi_ih64_tag", "EFIImageHandle64Tag"),
            ("load_base_addr_tag", "ImageLoadPhysAddrTag"), ("memory_map_tag", "MemoryMapTag"), ("network_tag", "NetworkTag"),
            ("rsdp_v1_tag", "RsdpV1Tag"), ("rsdp_v2_tag", "RsdpV2Tag"), ("smbios_tag", "SmbiosTag"), ("vbe_info_tag", "VBEInfoTag")],
      tblRow Gen.Fns.tbl_mbi (gt.1 ++ "->Option<&" ++ gt.2 ++ ">") = some (.var 0) ∧
      tblVars Gen.Fns.tbl_mbi (gt.1 ++ "->Option<&" ++ gt.2 ++ ">") = ["self.get_tag::<" ++ gt.2 ++ ">()"] := by
  decide +kernel

/-- `elf_sections_tag` leaves the type to inference: it is the return type -/
theorem mbi_elf_sections_tag_forward :
    tblRow Gen.Fns.tbl_mbi "elf_sections_tag->Option<&ElfSectionsTag>" = some (.var 0) ∧
    tblVars Gen.Fns.tbl_mbi "elf_sections_tag->Option<&ElfSectionsTag>" = ["self.get_tag()"] := by
  decide +kernel

/-- `end_address()` = `start_address() + total_size()` -/
theorem mbi_end_address_eq (p : Profile) (s t : Nat) (h : s + t < W64) :
    evalO p [.int .usize s, .int .usize t] (tblRow Gen.Fns.tbl_mbi "end_address->usize") = some (.ok (.int .usize (s + t))) := by
  have row : tblRow Gen.Fns.tbl_mbi "end_address->usize" = some (.bin .add (.var 0) (.var 1)) := by decide +kernel
  simp only [row, rir, uadd_ok p W64 s t h]

end Mb2.Fns
