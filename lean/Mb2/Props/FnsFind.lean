/-
  SOURCE = MODEL for the decision sequence of `Multiboot2Header::find_header` (header.rs).

  Opaque inputs (named by their source text, which therefore pins the window `..min(8192)`, the offsets `+8 .. +12` of the length
  word and the sub-slice `magic_index .. magic_index + length`): the alignment offset of the buffer, its length, the window slice, the result
  of the `windows(4).position(..)` scan, of `buffer.get(+8..+12)`, the decoded length and the checked sub-slice.
  The theorem states the order of the decisions of the model's `findHeader`: buffer alignment, no magic -> `Ok(None)`, misaligned
  magic -> error, length word outside the buffer -> error, header outside the buffer -> error, else the sub-slice and the index.
-/
import Mb2.Props.FnsBase
open Mb2 Mb2.Rir

namespace Mb2.Fns

def optV' (name : String) : Option V → V
  | none => .c0 "None"
  | some v => .c1 name v

def findDecision (ao : Nat) (pos : Option Nat) (get : Option V) (sub : Option V) : V :=
  let err (e : MemErr) : V := .c1 "Err" (.c1 "LoadError::Memory" (encMemErr e))
  if ao ≠ 0 then err .wrongAlignment
  else match pos with
    | none => .c1 "Ok" (.c0 "None")
    | some i =>
      if i % 8 ≠ 0 then err .wrongAlignment
      else match get with
        | none => err .missingPadding
        | some _ => match sub with
          | none => err .invalidReportedTotalSize
          | some h => .c1 "Ok" (.c1 "Some" (.pair h (.int .u32 i)))

theorem find_header_eq (p : Profile) (ao len : Nat) (w hl : V) (pos : Option Nat) (get sub : Option V)
    (hpos : ∀ i, pos = some i → i < W32) :
    evalO p [.int .usize ao, .int .usize len, w, optV' "Some" (pos.map (V.int .usize)), optV' "Some" get, .c1 "Ok" hl,
             optV' "Some" sub] Gen.Fns.find_header =
      some (.ok (findDecision ao pos get sub)) := by
  have hmin : (if len ≤ 8192 then len else 8192) ≤ len := by split <;> omega
  have hi : ∀ i, pos = some i → i % W32 = i := fun i h => Nat.mod_eq_of_lt (hpos i h)
  -- the body looks at `get` only when the scan has found the magic, and at `sub` only when `get` has found the length word
  match pos, get, sub, hi with
  | none, _, _, hi | some _, none, _, hi | some _, some _, none, hi | some _, some _, some _, hi =>
    simp only [Gen.Fns.find_header, rir, findDecision, encMemErr, optV', Option.map, hi,
      Nat.zero_le, hmin]  -- the bounds of the slice `buffer[..buffer.len().min(8192)]`

/-- the model's result as an IR value (the sub-slice is represented by its length) -/
def encFind : Res (Ex HLoadErr (Option (Nat × Nat))) → V
  | .ok (.ok none) => .c1 "Ok" (.c0 "None")
  | .ok (.ok (some (i, l))) => .c1 "Ok" (.c1 "Some" (.pair (.lit l) (.int .u32 i)))
  | .ok (.error (.memory e)) => .c1 "Err" (.c1 "LoadError::Memory" (encMemErr e))
  | _ => .stuck

/-- the MODEL's `find_header` IS this decision sequence, with the opaque inputs read as: the scan over the first
    `min len 8192` bytes, "the four bytes at +8..+12 exist", "the header `i .. i + length` lies inside the buffer" -/
theorem findHeaderAt_eq_decision (addr : Nat) (buf : Bytes) :
    encFind (findHeaderAt addr buf) =
      findDecision (addr % 8) (scanMagic buf 0 (min buf.length 8192))
        ((scanMagic buf 0 (min buf.length 8192)).bind fun i => if i + 12 > buf.length then none else some .unit)
        ((scanMagic buf 0 (min buf.length 8192)).bind fun i =>
          if i + le32 buf (i + 8) > buf.length then none else some (.lit (le32 buf (i + 8)))) := by
  unfold findHeaderAt findHeader findDecision
  by_cases h0 : addr % 8 = 0
  · simp only [h0, ne_eq, not_true_eq_false, if_false]
    cases hs : scanMagic buf 0 (min buf.length 8192) with
    | none => simp [encFind]
    | some i =>
      simp only [Option.bind]
      by_cases h8 : i % 8 = 0
      · by_cases h12 : i + 12 > buf.length
        · simp [encFind, h8, h12]
        · by_cases hl : i + le32 buf (i + 8) > buf.length
          · simp [encFind, h8, h12, hl]
          · simp [encFind, h8, h12, hl]
      · simp [encFind, h8]
  · simp [encFind, h0]

end Mb2.Fns
