/-
  C04 — Typed getters select the first matching tag and decode every specified field.
-/
import Mb2.Tags
import Mb2.Spec
import Mb2.Lemmas.Tags
import Mb2.Lemmas.View
namespace Mb2.C04
open Mb2

/-- the struct field lists transcribed from the Rust sources coincide with the specification's offset tables -/
theorem layout_eq_spec : ∀ k : Kind, k.fields = Spec.fields k.typ := by
  intro k; cases k <;> rfl

/-- fixed-size kinds: the Rust struct's unpadded size is the specification's tag size -/
theorem fixed_size_eq_spec : ∀ k : Kind, ∀ s, Spec.fixedSize k.typ = some s → k.desc = sizedDesc s := by
  intro k s h; cases k <;> cases h <;> rfl

/-- the embedded VBE control / mode blocks: the packed Rust structs place every field at the VBE 3.0 offset -/
theorem vbe_layout_eq_spec : vbeControlFields = Spec.vbeControl ∧ vbeModeFields = Spec.vbeMode := by decide

theorem vbe_fields_inside : ∀ f ∈ vbeControlFields ++ vbeModeFields, f.1 + f.2 ≤ 784 ∧ (f.2 = 1 ∨ f.2 = 2 ∨ f.2 = 4) := by decide

/-- every VBE block field decodes to the little-endian value at its specified offset, inside the 784-byte tag -/
theorem vbe_field_decodes (area : Bytes) (v : View) (hfit : v.off + v.sov ≤ area.length) (hsov : 784 ≤ v.sov) :
    ∀ f ∈ Spec.vbeControl ++ Spec.vbeMode, rdW (v.bytes area) f.1 f.2 = .ok (leW area (v.off + f.1) f.2) := by
  intro f hf
  have := vbe_fields_inside f (vbe_layout_eq_spec.1 ▸ vbe_layout_eq_spec.2 ▸ hf)
  exact rdW_slice area v.off v.sov f.1 f.2 (this.2.imp_right (.imp_right .inl)) (Nat.le_trans this.1 hsov) hfit

/-- every plain field lies inside the fixed part of its struct -/
theorem fields_inside : ∀ k : Kind, ∀ f ∈ k.fields, f.2.1 + f.2.2 ≤ k.desc.fixed ∧ (f.2.2 = 1 ∨ f.2.2 = 2 ∨ f.2.2 = 4 ∨ f.2.2 = 8) := by
  intro k; cases k <;> decide

/-- `get_tag` returns the FIRST tag of the walk whose type number matches; nothing when the (complete) walk has none -/
theorem getTag_first (p : Profile) (area : Bytes) (k : Kind) :
    (∀ v, getTag p area k = .ok (some v) →
        ∃ pre it post, (tagsOf p .tag area).1 = pre ++ it :: post ∧ it.typ = k.typ ∧ it.off = v.off ∧ it.size = v.size ∧
          ∀ x ∈ pre, x.typ ≠ k.typ) ∧
    (getTag p area k = .ok none → (tagsOf p .tag area).2 = .done ∧ ∀ x ∈ (tagsOf p .tag area).1, x.typ ≠ k.typ) :=
  ⟨fun v h => let ⟨pre, it, post, hsplit, htyp, hoff, hsize, hpre, _⟩ := firstCast_first.1 v h
    ⟨pre, it, post, hsplit, htyp, hoff, hsize, hpre⟩,
   firstCast_first.2⟩

/-- Field decoding: for a typed view of a kind with plain fields, every accessor returns exactly the little-endian
    value stored at the specification's offset inside the tag (offset `v.off + o` of the tag area) - never a panic,
    never a read outside the tag. -/
theorem field_decodes (area : Bytes) (k : Kind) (v : View) (hfit : v.off + v.sov ≤ area.length)
    (hsov : k.desc.fixed ≤ v.sov) :
    ∀ f ∈ Spec.fields k.typ, rdW (v.bytes area) f.2.1 f.2.2 = .ok (leW area (v.off + f.2.1) f.2.2) :=
  layout_eq_spec k ▸ rdW_fields area v.off v.sov _ _ hfit hsov (fields_inside k)

/-- the EFI memory map is withheld while a boot-services-not-exited tag is present -/
theorem efi_map_withheld (p : Profile) (area : Bytes) (v : View) (h : getTag p area .efiBs = .ok (some v)) :
    efiMemoryMapTag p area = .ok none := by
  unfold efiMemoryMapTag; rw [h]

/-- … and otherwise it is the first EFI memory-map tag -/
theorem efi_map_otherwise (p : Profile) (area : Bytes) (h : getTag p area .efiBs = .ok none) :
    efiMemoryMapTag p area = getTag p area .efiMmap := by
  unfold efiMemoryMapTag; rw [h]

/-- a framebuffer tag with an unknown type byte is reported as an error carrying that byte, whatever byte above 2 it is -/
theorem fb_unknown_type (T : Bytes) (v : View) (hT : 30 ≤ T.length) (h : 2 < u8At T 29) :
    fbBufferType T v = .ok (.error (u8At T 29)) :=
  (fbBufferType_eq T v hT).trans (if_pos h)

theorem fb_known_type (T : Bytes) (v : View) (hT : 30 ≤ T.length) (h : u8At T 29 ≤ 2) :
    ∀ b, fbBufferType T v ≠ .ok (.error b) := by
  intro b hb
  rw [fbBufferType_eq T v hT, if_neg (by omega)] at hb
  -- a `do` block returns a value only if each of its reads does, and then it is the value of its last line: never an error
  by_cases h0 : u8At T 29 = 0
  · rw [if_pos h0] at hb
    simp only [Res.bind_eq_ok, Res.ite_ok_eq_ok, reduceCtorEq, and_false, exists_false] at hb
  by_cases h1 : u8At T 29 = 1
  · rw [if_neg h0, if_pos h1] at hb
    simp only [Res.bind_eq_ok, Res.ok.injEq, reduceCtorEq, and_false, exists_false] at hb
  · rw [if_neg h0, if_neg h1] at hb; cases hb

/-- an RSDP v2 whose own length field exceeds the 36 bytes the tag holds is invalid (and nothing beyond the tag is read) -/
theorem rsdp2_long_invalid (T : Bytes) (hT : 32 ≤ T.length) (h : 36 < le32 T 28) : rsdp2Valid T = .ok false := by
  unfold rsdp2Valid
  rw [rd32_ok (by omega), Res.bind_ok, if_pos h]; rfl

/-- the specification's checksum: the sum of the bytes `[a, a+n)` modulo 256 -/
def sumMod (T : Bytes) (a n : Nat) : Nat := ((List.range n).map fun i => u8At T (a + i)).sum % 256

/-- the checksum loop over any list of in-range indices -/
theorem foldlM_sum (T : Bytes) (a : Nat) : ∀ (l : List Nat) (acc : Nat), acc < 256 → (∀ i ∈ l, a + i < T.length) →
    l.foldlM (fun acc i => (do let b ← rd8 T (a + i); pure ((acc + b) % 256) : Res Nat)) acc =
      .ok ((acc + (l.map fun i => u8At T (a + i)).sum) % 256) := by
  intro l
  induction l with
  | nil => intro acc ha _; exact congrArg Res.ok (Nat.mod_eq_of_lt ha).symm
  | cons x xs ih =>
    intro acc _ h
    rw [List.foldlM_cons, rd8_ok (h x List.mem_cons_self), Res.bind_ok, Res.pure_eq, Res.bind_ok,
      ih _ (Nat.mod_lt _ (by omega)) fun i hi => h i (List.mem_cons_of_mem _ hi), List.map_cons, List.sum_cons,
      Nat.mod_add_mod, Nat.add_assoc]

/-- the byte-sum loop computes the specification's checksum and reads exactly the bytes `[a, a+n)` -/
theorem byteSum_eq (T : Bytes) (a n : Nat) (h : a + n ≤ T.length) : byteSum T a n = .ok (sumMod T a n) := by
  unfold byteSum sumMod
  rw [foldlM_sum T a _ 0 (by omega) fun i hi => by have := List.mem_range.mp hi; omega, Nat.zero_add]

/-- ACPI 1.0 RSDP: valid exactly when the 20 bytes of the structure sum to 0 modulo 256 -/
theorem rsdp1_valid_iff (T : Bytes) (hT : 28 ≤ T.length) : rsdp1Valid T = .ok (sumMod T 8 20 == 0) := by
  unfold rsdp1Valid
  rw [byteSum_eq T 8 20 (by omega)]
  rfl

/-- ACPI 2.0 RSDP: valid exactly when its own length field fits the 36-byte structure and the bytes `[8, 8+length)`
    sum to 0 modulo 256 -/
theorem rsdp2_valid_iff (T : Bytes) (hT : 44 ≤ T.length) :
    rsdp2Valid T = .ok (decide (le32 T 28 ≤ 36) && (sumMod T 8 (le32 T 28) == 0)) := by
  unfold rsdp2Valid
  rw [rd32_ok (by omega), Res.bind_ok]
  by_cases h : le32 T 28 > 36
  · rw [if_pos h, decide_eq_false (Nat.not_le.mpr h)]; rfl
  · rw [if_neg h, byteSum_eq T 8 _ (by omega), decide_eq_true (Nat.not_lt.mp h)]; rfl

/-- Memory-map entries: with the specified entry size 24, entry `i` is decoded from exactly the 24 bytes at
    `16 + 24·i` of the tag: base (u64), length (u64), type (u32); `end = base + length` wraps modulo 2^64 (see C08);
    any other entry size is a controlled panic. -/
theorem memoryAreas_eq (T : Bytes) (v : View) (hfit : 16 + 24 * v.n ≤ T.length) :
    memoryAreas T v =
      (if le32 T 8 ≠ 24 then .panic
       else .ok ((List.range v.n).map fun i =>
         ⟨le64 T (16 + 24 * i), (le64 T (16 + 24 * i) + le64 T (16 + 24 * i + 8)) % W64, le64 T (16 + 24 * i + 8),
          le32 T (16 + 24 * i + 16)⟩)) := by
  unfold memoryAreas
  rw [rd32_ok (by omega), Res.bind_ok]
  split
  · rfl
  · apply mapM_ok_of_forall
    intro i hi
    have := List.mem_range.mp hi
    rw [rd64_ok (by omega), rd64_ok (by omega), rd32_ok (by omega)]
    rfl

/-! Non-vacuity -/
example : getTag .dev ([4,0,0,0, 16,0,0,0, 1,0,0,0, 2,0,0,0,  4,0,0,0, 16,0,0,0, 9,0,0,0, 9,0,0,0,  0,0,0,0, 8,0,0,0]) .meminfo
    = .ok (some ⟨0, 16, 16, 0⟩) := by decide
example : getTag .dev ([0,0,0,0, 8,0,0,0]) .meminfo = .ok none := by decide
-- "RSD PTR " + checksum byte making the 20 bytes sum to 0
example : rsdp1Valid ([0,0,0,0,0,0,0,0, 82,83,68,32,80,84,82,32, 0xe1, 0,0,0,0,0,0, 0, 0,0,0,0]) = .ok true := by decide

end Mb2.C04
