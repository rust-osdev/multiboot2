/-
  C09, end to end: the complete sweep of a header (`HSweep.hsweep` - the function the correspondence check compares with
  the real code on every HSWEEP case) produces no `oob` piece and, when the enumerated fields hold defined values (the
  hypothesis of the property), no `ub` piece either. The assembly follows `HSweep.hsweepLoaded`.
-/
import Mb2.Lemmas.Obs
import Mb2.Props.C09Parts
import Mb2.Props.C11Parts
namespace Mb2.C09
open Mb2 Sweep HSweep C01

/-- the property's hypothesis on the enumerated fields of the walked tags: type ≤ 10, flags ≤ 1, console flags ≤ 1,
    relocation preference ≤ 2 (the architecture is checked separately, it lives in the basic header) -/
def EnumsDefined (area : Bytes) : Prop :=
  ∀ it ∈ (Spec.tagsOf .ht area).1, it.typ ≤ 10 ∧ le16 area (it.off + 2) ≤ 1 ∧
    (it.typ = 4 → le32 area (it.off + 8) ≤ 1) ∧ (it.typ = 10 → le32 area (it.off + 20) ≤ 2)

section
variable {p : Profile} {area : Bytes} {k : HKind} {v : View} (g : TagView p .ht area k.typ k.desc v)
include g

theorem noFault_hfields : Obs.NoFault (fields (v.bytes area) k.fields) :=
  g.noFault_fields (k.desc_align ▸ by decide) (C11.fields_inside k)

theorem noFault_common : Obs.NoFault (common (v.bytes area)) :=
  g.noFault_fields (k.desc_align ▸ by decide) (by cases k <;> decide)

/-- under the hypothesis on the enumerated fields, `enumOk` holds for every view a getter returns: the view's bytes are
    the bytes of a walked tag of the getter's type -/
theorem enumsOk (he : EnumsDefined area) : enumOk k (v.bytes area) = true := by
  obtain ⟨e1, e2, e3, e4⟩ := he _ g.item
  have ht : k.typ = le16 area v.off := g.typ_eq
  have ha : 0 < k.desc.align := k.desc_align ▸ by decide
  have h8 : 8 ≤ k.desc.fixed := by cases k <;> decide
  unfold Mb2.enumOk
  rw [g.le16_eq ha (o := 0) (by omega), g.le16_eq ha (o := 2) (by omega), Nat.add_zero, ← ht, decide_eq_true e1,
    decide_eq_true e2, Bool.true_and, Bool.true_and]
  split
  · exact (g.le32_eq ha (o := 8) (by decide)).symm ▸ decide_eq_true (e3 rfl)
  · exact (g.le32_eq ha (o := 20) (by decide)).symm ▸ decide_eq_true (e4 rfl)
  · rfl

theorem noFault_simpleBody (he : EnumsDefined area) : Obs.NoFault (simpleBody k (v.bytes area)) := by
  unfold simpleBody
  rw [if_pos (enumsOk g he)]
  simp only [nofault]
  exact ⟨noFault_common g, noFault_hfields g⟩

end

theorem noFault_inforeqBody {p area v} (g : TagView p .ht area 1 infoReqDesc v) (he : EnumsDefined area) :
    Obs.NoFault (inforeqBody (v.bytes area) v) := by
  unfold inforeqBody
  rw [if_pos (enumsOk (k := .inforeq) g he)]
  simp only [nofault, List.forall_mem_map, List.mem_range]
  refine ⟨noFault_common (k := .inforeq) g, fun i hi => safe_of_ok ?_⟩
  -- the cast fixed `n = (size − 8)/4` with no remainder
  exact inforeq_words_inside _ v.size v.n i (by rw [g.len, g.sov]; exact Nat.le_refl _) (C11.info_request_words g.size8 g.cast) hi

section
variable {p : Profile} {area : Bytes} (hb : area.length % 8 = 0) (hlen : area.length < 2^62)
include hb hlen

theorem noFault_hgetTag (name : String) (k : HKind) (body : View → Obs)
    (h : ∀ v, TagView p .ht area k.typ k.desc v → Obs.NoFault (body v)) :
    Obs.NoFault (hgetter name (hgetTag p area k) body) :=
  (noFault_hgetter ..).mpr ⟨hgetTag_no_fault p area k hb hlen, fun v hv => h v (hgetTag_view hb hlen hv)⟩

end

/-- **C09, end to end (loaded header).** For every header region whose tags carry defined enumerated values, the whole
    sweep - tag walk, all ten typed getters, every field accessor, the information-request list, `Debug` - contains no
    `oob` and no `ub` piece. -/
theorem hsweepLoaded_no_fault (p : Profile) (R : Bytes) (hl : HLoaded) (h8 : R.length % 8 = 0) (hlen : R.length < 2^62)
    (he : EnumsDefined (R.drop 16)) : Obs.NoFault (hsweepLoaded p R hl) := by
  have hb : (R.drop 16).length % 8 = 0 := by rw [List.length_drop]; omega
  have hlt : (R.drop 16).length < 2^62 := by rw [List.length_drop]; omega
  have G := @noFault_hgetTag p (R.drop 16) hb hlt
  have simple : ∀ name k, Obs.NoFault (hgetter name (hgetTag p (R.drop 16) k) (fun v => simpleBody k (v.bytes (R.drop 16)))) :=
    fun name k => G _ _ _ fun v g => noFault_simpleBody g he
  -- no walked tag has an undeclared type value
  have hany : ¬ (tagsOf p .ht (R.drop 16)).1.any (fun it => it.typ > 10) = true := by
    rw [C11.tag_iter_is_spec_walk p (R.drop 16) hb hlt, List.any_eq_true]
    rintro ⟨it, hit, h⟩
    exact absurd (of_decide_eq_true h) (Nat.not_lt.mpr (he it hit).1)
  unfold hsweepLoaded
  rw [if_neg hany]
  -- one goal per part of the sweep; without `with_reducible` the `apply` would also split parts that are themselves `++`
  repeat' with_reducible apply noFault_append
  · unfold headS; simp only [nofault]; exact walk_no_fault p _ hb hlt -- ld, tags
  · exact G _ .inforeq _ fun v g => noFault_inforeqBody g he -- inforeq
  · exact simple _ _ -- address
  · exact simple _ _ -- entry
  · exact simple _ _ -- efi32
  · exact simple _ _ -- efi64
  · exact simple _ _ -- console
  · exact simple _ _ -- fb
  · exact simple _ _ -- modalign
  · exact simple _ _ -- efibs
  · exact simple _ _ -- reloc
  · exact noFault_t _ -- debug

/-- **C09 from the pointer.** For every memory content behind the pointer whose declared header length is readable, whose
    architecture field holds a defined value and whose tags hold defined enumerated values, `load` followed by every
    accessor / getter / iterator / Debug yields values, errors or controlled panics only - never a read outside the declared
    length, never an undefined enum value. Both build profiles. -/
theorem hsweep_no_fault (p : Profile) (mem : Bytes) (hmem : mem.length ≥ 16 ∧ mem.length ≥ le32 mem 8)
    (harch : le32 mem 4 = 0 ∨ le32 mem 4 = 4)
    (he : EnumsDefined ((mem.take (le32 mem 8)).drop 16)) : Obs.NoFault (hsweep p mem) := by
  have hs : Safe (hload p false mem) := C10.hload_eq_closed p mem hmem harch ▸ safe_of_ok (C10.hloadClosed_ok ..)
  have h32 := le32_lt mem 8
  unfold hsweep
  split
  next hl h =>
    obtain ⟨rfl, h16, h8, -⟩ := (C10.hload_eq_ok_iff p mem hmem hl).mp h
    refine hsweepLoaded_no_fault p _ _ ?_ ?_ he <;> rw [List.length_take] <;> dsimp only <;> omega
  next => exact noFault_t _
  next => exact noFault_t _
  next => exact noFault_t _
  next => exact noFault_t _
  next h => exact absurd h hs.1
  next h => exact absurd h hs.2

/-! Non-vacuity: the minimal valid header (16 bytes + end tag) satisfies all hypotheses. -/
example : EnumsDefined (([0xd6,0x50,0x52,0xe8, 0,0,0,0, 24,0,0,0, 0x12,0xaf,0xad,0x17, 0,0,0,0, 8,0,0,0] : Bytes).take 24 |>.drop 16) := by
  intro it hit
  have : it = ⟨0, 0, 8, 0⟩ := by
    have h : (Spec.tagsOf .ht ([0,0,0,0, 8,0,0,0] : Bytes)).1 = [⟨0, 0, 8, 0⟩] := by decide
    have e : (([0xd6,0x50,0x52,0xe8, 0,0,0,0, 24,0,0,0, 0x12,0xaf,0xad,0x17, 0,0,0,0, 8,0,0,0] : Bytes).take 24 |>.drop 16) = [0,0,0,0, 8,0,0,0] := by decide
    rw [e, h] at hit
    simpa using hit
  subst this
  decide

/-- what `get_tag` of the header crate establishes about a typed view, spelt out (the proofs of this file use `TagView`) -/
structure GoodHView (p : Profile) (area : Bytes) (k : HKind) (v : View) : Prop where
  size8 : 8 ≤ v.size
  sov : v.sov = roundUp8 v.size
  fit : v.off + v.sov ≤ area.length
  len : (v.bytes area).length = v.sov
  cast : castTo p .ht k.desc v.size (v.size - 8) = .ok (v.sov, v.n)
  item : ∃ it ∈ (Spec.tagsOf .ht area).1, it.off = v.off ∧ it.typ = k.typ

theorem goodHView (p : Profile) (area : Bytes) (k : HKind) (v : View)
    (hb : area.length % 8 = 0) (hlen : area.length < 2^62) (h : hgetTag p area k = .ok (some v)) :
    GoodHView p area k v :=
  have g := hgetTag_view hb hlen h
  ⟨g.size8, g.sov, g.fit, g.len, g.cast, _, g.item, rfl, rfl⟩

end Mb2.C09
