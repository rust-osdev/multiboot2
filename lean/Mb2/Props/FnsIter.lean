/-
  SOURCE = MODEL for `TagIter::next` (multiboot2-common/src/iter.rs): the offset arithmetic of one step (`nextOffset`), and the
  model's `tagIterNext` as that arithmetic followed by `ref_from_slice` on the sub-slice.
-/

import Mb2.Props.FnsBase
open Mb2 Mb2.Rir

namespace Mb2.Fns

/-- the arithmetic of the model's `tagIterNext`: the new offset, or a panic -/
def nextOffset (p : Profile) (hs pl off len : Nat) : Res Nat := do
  let l ← uadd p W64 hs pl
  let to ← uadd p W64 off l
  let to ← incAlign p to
  let delta ← usub p W64 to off
  let off' ← uadd p W64 off delta
  if off > to then .panic else if to > len then .panic else .ok off'

theorem tag_iter_next_eq (p : Profile) (off len hs pl : Nat) (sl r : V) :
    evalO p [.int .usize off, .int .usize len, .int .usize hs, .int .usize pl, sl, .c1 "Ok" r] Gen.Fns.tag_iter_next =
      some (if off = len then .ok (.pair (.c0 "None") (.int .usize off))
            else if ¬ off < len then .panic
            else (nextOffset p hs pl off len) >>= fun off' => .ok (.pair (.c1 "Some" r) (.int .usize off'))) := by
  simp only [Gen.Fns.tag_iter_next, rir, nextOffset, incAlign_eq_band, usub_ok p W64 8 1 (by decide)]  -- `ALIGNMENT - 1`

/-- `nextOffset` together with the end of the sub-slice -/
def nextToOff (p : Profile) (hs pl off len : Nat) : Res (Nat × Nat) := do
  let l ← uadd p W64 hs pl
  let to ← uadd p W64 off l
  let to ← incAlign p to
  let delta ← usub p W64 to off
  let off' ← uadd p W64 off delta
  if off > to then .panic else if to > len then .panic else .ok (to, off')

theorem nextOffset_eq (p : Profile) (hs pl off len : Nat) :
    nextOffset p hs pl off len = (nextToOff p hs pl off len) >>= fun r => .ok r.2 := by
  simp only [nextOffset, nextToOff, rir]

/-- the model's `TagIter::next` IS this arithmetic followed by `ref_from_slice` on the sub-slice -/
theorem tagIterNext_eq (p : Profile) (k : HK) (buf : Bytes) (off : Nat) :
    tagIterNext p k buf off =
      if off = buf.length then .ok none
      else if ¬ off < buf.length then .panic
      else (do
        let _ ← rd32 buf off
        let size ← rd32 buf (off + 4)
        let pl ← payloadLen p k size
        let r ← nextToOff p k.hsize pl off buf.length
        match ← refFromSlice p k off (slice buf off (r.1 - off)) with
        | .error _ => .panic
        | .ok pl' => .ok (some (⟨off, tagTyp k buf off, size, pl'⟩, r.2))) := by
  simp only [tagIterNext, nextToOff, rir]
  -- the two sides now differ only in the `match` on the `Ex`: the statement has a matcher of its own, which unfolds to the
  -- same as the model's
  rfl

end Mb2.Fns
