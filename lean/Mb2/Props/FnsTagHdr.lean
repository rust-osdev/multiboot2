/-
  SOURCE = MODEL for `impl Header for TagHeader` (multiboot2/src/tag.rs): `payload_len`.
-/

import Mb2.Props.FnsBase
open Mb2 Mb2.Rir

namespace Mb2.Fns

theorem tag_header_payload_len_eq (p : Profile) (d : Nat) (hd : d < W32) :
    evalO p [.int .u32 d] Gen.Fns.tag_header_payload_len = some (intRes .usize (payloadLen p .tag d)) := by
  simp only [Gen.Fns.tag_header_payload_len, rir, mod_W64_of_lt_W32 hd, payloadLen]
  simp +contextual only [usub_ok, Res.bind_ok]

end Mb2.Fns
