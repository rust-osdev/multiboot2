/-
  C02 — Loading accepts exactly the well-formed boot informations.
-/
import Mb2.Spec
import Mb2.Lemmas.Common
-- registered under C02 in `Props/INDEX.json`: the check audits them through this module; nothing below uses them
import Mb2.Props.FnsTblMbi
import Mb2.Props.FnsLinked
import Mb2.Props.FnsGetters
import Mb2.Props.FnsBytesRef
import Mb2.Props.FnsMbiLoad
import Mb2.Props.FnsBiHdr
namespace Mb2.C02
open Mb2

/-- Closed form of the modelled `BootInformation::load` behind a non-null, 8-aligned pointer whose declared region
    (and at least the 8 header bytes) is readable: exactly the decision sequence of the property, identical in both
    build profiles. -/
theorem load_eq (p : Profile) (mem : Bytes)
    (hmem : mem.length ≥ 8 ∧ mem.length ≥ le32 mem 0) :
    load p false mem =
      let t := le32 mem 0
      if t < 8 then .ok (.error (.memory .shorterThanHeader))
      else if t % 8 ≠ 0 then .ok (.error (.memory .missingPadding))
      else if le32 mem (t - 8) = 0 ∧ le32 mem (t - 4) = 8 then .ok (.ok ⟨0, t, t⟩)
      else .ok (.error .noEndTag) := by
  obtain ⟨h8, hdecl⟩ := hmem
  have rd : ∀ o, o + 4 ≤ le32 mem 0 → rd32 (mem.take (le32 mem 0)) o = .ok (le32 mem o) :=
    fun o h => rd32_take mem _ o h hdecl
  simp only [load, Bool.false_eq_true, if_false, Res.ite_bind,
    refFromPtr_struct p (.inl rfl) mem (d := le32 mem 0) (n := 8) (hd := rfl) (hn := rfl) (hh := h8) (hle := hdecl)]
  -- the two rejections of `ref_from_ptr` pass through unchanged
  refine ite_congr rfl (fun _ => rfl) fun c1 => ite_congr rfl (fun _ => rfl) fun c2 => ?_
  -- the end-tag check reads the declared size again, then the last two words of the declared region
  simp only [Res.bind_ok, Res.pure_eq, rd 0 (by omega), payloadLen,
    show 8 + (le32 mem 0 - 8) - 8 = le32 mem 0 - 8 by omega, rd (le32 mem 0 - 8) (by omega),
    show le32 mem 0 - 8 + 4 = le32 mem 0 - 4 by omega, rd (le32 mem 0 - 4) (by omega)]

/-- `load` depends on the memory only through the declared size and the last 8 bytes of the declared region -/
theorem load_eq_closed (p : Profile) (mem : Bytes) (hmem : mem.length ≥ 8 ∧ mem.length ≥ le32 mem 0) :
    load p false mem = loadClosed (le32 mem 0) (le32 mem (le32 mem 0 - 8)) (le32 mem (le32 mem 0 - 4)) := by
  rw [load_eq p mem hmem]; rfl

theorem spec_load_false (mem : Bytes) :
    Spec.load false mem = .exactly (loadClosed (le32 mem 0) (le32 mem (le32 mem 0 - 8)) (le32 mem (le32 mem 0 - 4))) := by
  simp only [Spec.load, loadClosed, Bool.false_eq_true, if_false, apply_ite Expect.exactly]

/-- C02, full statement: for every profile, null or not, and every memory content behind the pointer, the modelled
    load produces exactly the outcome the specification prescribes (null pointer, shorter-than-header, missing
    padding, missing end tag - in that precedence - or success with start = pointer, end = pointer + declared size,
    total = declared size). In particular it never panics and never reads outside the declared region. -/
theorem load_meets_spec (p : Profile) (null : Bool) (mem : Bytes)
    (hmem : null = false → mem.length ≥ 8 ∧ mem.length ≥ le32 mem 0) :
    (Spec.load null mem).admits (load p null mem) = true := by
  cases null
  · rw [load_eq_closed p mem (hmem rfl), spec_load_false]; exact Expect.admits_exactly _
  · exact Expect.admits_exactly _

/-- the outcome does not depend on the build profile -/
theorem load_profile_independent (null : Bool) (mem : Bytes)
    (hmem : null = false → mem.length ≥ 8 ∧ mem.length ≥ le32 mem 0) :
    load .dev null mem = load .release null mem := by
  cases null
  · rw [load_eq .dev mem (hmem rfl), load_eq .release mem (hmem rfl)]
  · rfl

theorem loadClosed_ok (t a b : Nat) : ∃ r, loadClosed t a b = .ok r :=
  ⟨_, by simp only [loadClosed, ← apply_ite Res.ok]; rfl⟩

/-- never a panic, never a read outside the declared region -/
theorem load_no_panic_no_oob (p : Profile) (null : Bool) (mem : Bytes)
    (hmem : null = false → mem.length ≥ 8 ∧ mem.length ≥ le32 mem 0) :
    ∃ r, load p null mem = .ok r := by
  cases null
  · rw [load_eq_closed p mem (hmem rfl)]; exact loadClosed_ok _ _ _
  · exact ⟨_, rfl⟩

theorem load_eq_ok_iff (p : Profile) (mem : Bytes) (hmem : mem.length ≥ 8 ∧ mem.length ≥ le32 mem 0) (l : Loaded) :
    load p false mem = .ok (.ok l) ↔
      l = ⟨0, le32 mem 0, le32 mem 0⟩ ∧
      (le32 mem 0 ≥ 8 ∧ le32 mem 0 % 8 = 0 ∧ le32 mem (le32 mem 0 - 8) = 0 ∧ le32 mem (le32 mem 0 - 4) = 8) := by
  rw [load_eq_closed p mem hmem]
  fun_cases loadClosed (le32 mem 0) _ _
  · exact ⟨nofun, fun h => by omega⟩
  · exact ⟨nofun, fun h => by omega⟩
  · exact ⟨fun e => ⟨by cases e; rfl, by omega⟩, fun h => h.1 ▸ rfl⟩
  · exact ⟨nofun, fun h => by omega⟩

/-- success iff declared size ≥ 8, a multiple of 8, and the last 8 bytes are an end tag -/
theorem load_success_iff (p : Profile) (mem : Bytes)
    (hmem : mem.length ≥ 8 ∧ mem.length ≥ le32 mem 0) :
    (∃ l, load p false mem = .ok (.ok l)) ↔
      (le32 mem 0 ≥ 8 ∧ le32 mem 0 % 8 = 0 ∧ le32 mem (le32 mem 0 - 8) = 0 ∧ le32 mem (le32 mem 0 - 4) = 8) :=
  ⟨fun ⟨l, h⟩ => ((load_eq_ok_iff p mem hmem l).mp h).2, fun h => ⟨_, (load_eq_ok_iff p mem hmem _).mpr ⟨rfl, h⟩⟩⟩

/-! Non-vacuity -/
example : load .dev false [16,0,0,0, 0,0,0,0, 0,0,0,0, 8,0,0,0] = .ok (.ok ⟨0, 16, 16⟩) := by decide
example : load .dev false [4,0,0,0, 0,0,0,0] = .ok (.error (.memory .shorterThanHeader)) := by decide
example : load .release false [16,0,0,0, 0,0,0,0, 1,0,0,0, 8,0,0,0] = .ok (.error .noEndTag) := by decide

end Mb2.C02
