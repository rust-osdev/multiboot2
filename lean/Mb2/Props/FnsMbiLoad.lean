/-
  SOURCE = MODEL for `BootInformation::load` and `has_valid_end_tag` (multiboot2/src/boot_information.rs). The inputs of
  `load` are the outcomes of `NonNull::new`, `ref_from_ptr` and `has_valid_end_tag`: the theorem is the order of the decisions.
-/

import Mb2.Props.FnsBase
open Mb2 Mb2.Rir

namespace Mb2.Fns

theorem mbi_load_eq (p : Profile) (ptr inner : V) (nn : Bool) (r : Ex MemErr Unit) (endOk : Bool) :
    evalO p [if nn then .c1 "Some" ptr else .c0 "None",
             (match r with | .ok () => .c1 "Ok" inner | .error e => .c1 "Err" (encMemErr e)),
             .bool endOk] Gen.Fns.mbi_load =
      some (.ok (if !nn then .c1 "Err" (.c1 "LoadError::Memory" (encMemErr .null))
                 else match r with
                   | .error e => .c1 "Err" (.c1 "LoadError::Memory" (encMemErr e))
                   | .ok () => if endOk then .c1 "Ok" (.c1 "BootInformation::Self" inner)
                               else .c1 "Err" (.c0 "LoadError::NoEndTag"))) := by
  cases nn
  · simp only [Gen.Fns.mbi_load, rir, encMemErr]
  · cases r <;> simp only [Gen.Fns.mbi_load, rir]

/-- `has_valid_end_tag`: the decision is `typ == 0 && size == 8` on the tag header it looks at ... -/
theorem has_valid_end_tag_eq (p : Profile) (typ size : Nat) (hs : size < W32) :
    evalO p [.int .u32 typ, .int .u32 size] Gen.Fns.has_valid_end_tag =
      some (.ok (.bool (decide (typ = 0) && decide (size = 8)))) := by
  simp only [Gen.Fns.has_valid_end_tag, rir, mod_W64_of_lt_W32 hs]
  split <;> simp only [*, decide_true, decide_false, Bool.true_and, Bool.false_and]

/-- ... and the header it looks at is the one `size_of::<EndTag>()` bytes before the end of the payload, i.e. the LAST 8
    bytes of the declared region (the offset `8 + pl - 8` of the model's `load`): pinned on the source text of the pointer -/
theorem has_valid_end_tag_reads_last_8 :
    Gen.Fns.has_valid_end_tag = none ∨
      ("end_tag_ptr", "self.0.payload().as_ptr().add(self.0.header().payload_len()).sub(size_of::<EndTag>()).cast::<TagHeader>()")
        ∈ Gen.Fns.has_valid_end_tag_aliases := by
  simp only [Gen.Fns.has_valid_end_tag_aliases, List.mem_cons, eq_self, true_or, or_true]

end Mb2.Fns
