/-
  SOURCE = MODEL for `ElfSectionsTag::sections` (multiboot2/src/elf_sections.rs).
-/

import Mb2.Props.FnsBase
open Mb2 Mb2.Rir

namespace Mb2.Fns

/-- `ElfSectionsTag::sections` opens the iterator exactly when `elfOpen` does: `num * es <= len` and, if there are
    sections, `(shndx + 1) * es <= len` - computed in u64, which cannot overflow for u32 operands; nor can the offset
    `shndx * es` of the string-table header, computed behind the two checks -/
theorem elf_sections_open_eq (p : Profile) (len es num shndx : Nat) (hl : len < W64) (he : es < W32) (hn : num < W32)
    (hx : shndx < W32) :
    (evalO p [.int .usize len, .int .u32 es, .int .u32 num, .int .u32 shndx] Gen.Fns.elf_sections_open).map
        (fun r => r >>= fun _ => .ok V.unit) =
      some (if num * es > len then .panic else if num ≠ 0 ∧ (shndx + 1) * es > len then .panic else .ok .unit) := by
  simp only [Gen.Fns.elf_sections_open, rir, Option.map, Nat.mod_eq_of_lt hl, mod_W64_of_lt_W32 he, mod_W64_of_lt_W32 hn,
    mod_W64_of_lt_W32 hx, uadd_ok p W64 shndx 1 (add_lt_W64 hx (by decide)), umul_W64_of_le_W32 p (Nat.le_of_lt hn) he,
    umul_W64_of_le_W32 p (show shndx + 1 ≤ W32 from hx) he,
    umul_W64_of_le_W32 p (Nat.le_of_lt hx) he]  -- the third product: `shndx * es`

end Mb2.Fns
