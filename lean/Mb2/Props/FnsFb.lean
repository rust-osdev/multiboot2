/-
  SOURCE = MODEL for the framebuffer colour-info reader (framebuffer.rs): `FramebufferTag::buffer_type`, `Reader::read_next_u8`,
  `Reader::read_next_u16`.
-/
import Mb2.Props.FnsBase
open Mb2 Mb2.Rir

namespace Mb2.Fns

/-- `buffer_type`, unknown type byte: the error of `FramebufferTypeId::try_from` is passed on, nothing else is looked at -/
theorem fb_buffer_type_unknown_eq (p : Profile) (e n off len sl r0 r1 r2 r3 r4 r5 : V) :
    evalO p [.c1 "Err" e, n, off, len, sl, r0, r1, r2, r3, r4, r5] Gen.Fns.fb_buffer_type = some (.ok (.c1 "Err" e)) := by
  simp only [Gen.Fns.fb_buffer_type, rir]

/-- `buffer_type`, indexed: the palette of `n` colours (3 bytes each) must lie inside the colour-info buffer behind the two
    bytes of the count, `reader.off + 3 n <= buffer.len()`, else a controlled panic (`fbBufferType`: `2 + num * 3 ≤ v.n`) -/
theorem fb_buffer_type_indexed_eq (p : Profile) (n off len : Nat) (sl r0 r1 r2 r3 r4 r5 : V)
    (hn : n < 65536) (hoff : off < W32) :
    evalO p [.c1 "Ok" (.c0 "FramebufferTypeId::Indexed"), .int .u16 n, .int .usize off, .int .usize len, sl, r0, r1, r2, r3, r4, r5]
        Gen.Fns.fb_buffer_type =
      some (if off + n * 3 ≤ len then .ok (.c1 "Ok" sl) else .panic) := by
  have hn' : n < W32 := Nat.lt_trans hn (by decide)
  have hm : n * 3 < W32 := Nat.lt_trans (Nat.mul_lt_mul_of_pos_right hn (by decide)) (by decide)
  simp only [Gen.Fns.fb_buffer_type, rir, mod_W64_of_lt_W32 hn',
    umul_W64_of_le_W32 p (Nat.le_of_lt hn') (by decide : 3 < W32), uadd_ok p W64 off (n * 3) (add_lt_W64 hoff hm)]

/-- `buffer_type`, RGB: the six bytes in reading order (position / size of red, green, blue) -/
theorem fb_buffer_type_rgb_eq (p : Profile) (n off len sl r0 r1 r2 r3 r4 r5 : V) :
    evalO p [.c1 "Ok" (.c0 "FramebufferTypeId::RGB"), n, off, len, sl, r0, r1, r2, r3, r4, r5] Gen.Fns.fb_buffer_type =
      some (.ok (.c1 "Ok" (.pair (.pair r0 r1) (.pair (.pair r2 r3) (.pair r4 r5))))) := by
  simp only [Gen.Fns.fb_buffer_type, rir]

theorem fb_buffer_type_text_eq (p : Profile) (n off len sl r0 r1 r2 r3 r4 r5 : V) :
    evalO p [.c1 "Ok" (.c0 "FramebufferTypeId::Text"), n, off, len, sl, r0, r1, r2, r3, r4, r5] Gen.Fns.fb_buffer_type =
      some (.ok (.c1 "Ok" (.c0 "FramebufferType::Text"))) := by
  simp only [Gen.Fns.fb_buffer_type, rir]

/-- `Reader::read_next_u8`: the byte at `off` (a panic when `get` finds none: `fbByte`), and `off + 1` -/
theorem reader_read_next_u8_eq (p : Profile) (b : V) (off : Nat) (h : off < W32) :
    evalO p [.c1 "Some" b, .int .usize off] Gen.Fns.reader_read_next_u8 = some (.ok (.pair b (.int .usize (off + 1)))) := by
  simp only [Gen.Fns.reader_read_next_u8, rir, uadd_ok p W64 off 1 (add_lt_W64 h (by decide))]

theorem reader_read_next_u8_end_eq (p : Profile) (off : V) :
    evalO p [.c0 "None", off] Gen.Fns.reader_read_next_u8 = some .panic := by
  simp only [Gen.Fns.reader_read_next_u8, rir]

/-- `Reader::read_next_u16`: little-endian, low byte first (`fbBufferType`: `hi * 256 + lo`) -/
theorem reader_read_next_u16_eq (p : Profile) (lo hi : Nat) (hlo : lo < 256) (hhi : hi < 256) :
    evalO p [.int .u8 lo, .int .u8 hi] Gen.Fns.reader_read_next_u16 = some (.ok (.int .u16 (hi * 256 + lo))) := by
  -- the two bytes widened to `u16`, the high one shifted: nothing is cut off, and `|` on disjoint bits is `+`
  have e : (hi % 65536) <<< 8 % 65536 ||| lo % 65536 = hi * 256 + lo := by
    rw [Nat.mod_eq_of_lt (Nat.lt_trans hhi (by decide)), Nat.mod_eq_of_lt (Nat.lt_trans hlo (by decide)),
      Nat.mod_eq_of_lt (by rw [Nat.shiftLeft_eq]; omega), ← Nat.shiftLeft_add_eq_or_of_lt (show lo < 2 ^ 8 from hlo),
      Nat.shiftLeft_eq]
  simp only [Gen.Fns.reader_read_next_u16, rir, e]

end Mb2.Fns
