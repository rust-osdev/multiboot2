/-
  SOURCE = MODEL for `ModuleTag::module_size` (multiboot2/src/module.rs), `MemoryArea::end_address` and
  `MemoryMapTag::memory_areas` (memory_map.rs), `RsdpV2Tag::checksum_is_valid` (rsdp.rs).
-/

import Mb2.Props.FnsBase
open Mb2 Mb2.Rir

namespace Mb2.Fns

/-- `ModuleTag::module_size` = `mod_end.saturating_sub(mod_start)` -/
theorem module_size_eq (p : Profile) (e s : Nat) :
    evalO p [.int .u32 e, .int .u32 s] Gen.Fns.module_size = some (.ok (.int .u32 (e - s))) := by
  simp only [Gen.Fns.module_size, rir]

/-- `MemoryArea::end_address` = `(base + length) mod 2^64` (as `memoryAreas` computes it) -/
theorem memory_area_end_address_eq (p : Profile) (b l : Nat) :
    evalO p [.int .u64 b, .int .u64 l] Gen.Fns.memory_area_end_address = some (.ok (.int .u64 ((b + l) % W64))) := by
  simp only [Gen.Fns.memory_area_end_address, rir]

/-- `MemoryMapTag::memory_areas` asserts `entry_size == 24` (`memoryAreas`) -/
theorem mmap_memory_areas_eq (p : Profile) (es : Nat) (areas : V) (h : es < W32) :
    evalO p [.int .u32 es, areas] Gen.Fns.mmap_memory_areas = some (if es ≠ 24 then .panic else .ok areas) := by
  simp only [Gen.Fns.mmap_memory_areas, rir, mod_W64_of_lt_W32 h]

/-- `RsdpV2Tag::checksum_is_valid`: a stored length beyond the 36 RSDP bytes of the tag is invalid WITHOUT summing
    (`C04.rsdp2_long_invalid`); otherwise validity is `byte sum == 0` -/
theorem rsdp2_checksum_eq (p : Profile) (length sum : Nat) (h : length < W32) :
    evalO p [.int .u32 length, .int .u8 sum] Gen.Fns.rsdp2_checksum =
      some (.ok (.bool (if length > 36 then false else decide (sum = 0)))) := by
  simp only [Gen.Fns.rsdp2_checksum, rir, mod_W64_of_lt_W32 h]

end Mb2.Fns
