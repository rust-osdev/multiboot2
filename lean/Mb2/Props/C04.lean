/-
  C04 — Typed getters select the first matching tag and decode every specified field.
  `C04Parts`: model-level theorems (first match, field decoding against the specification tables, EFI withholding,
  framebuffer type rule, RSDP checksums, memory areas); `Layout`: the SOURCE-DERIVED facts (struct layouts, IDs, BASE_SIZE,
  accessor -> field) regenerated from /repo on every run, compared with the model tables.
-/
import Mb2.Props.C04Parts
-- registered under C04 in `Props/INDEX.json`: the check audits them through this module; nothing below uses them
import Mb2.Props.FnsTblFixed
import Mb2.Props.FnsTblMbi
import Mb2.Props.FnsTblTags
import Mb2.Props.FnsTblEfi
import Mb2.Props.FnsGetters
import Mb2.Props.FnsFb
import Mb2.Props.FnsMisc
import Mb2.Props.FnsFbType
import Mb2.Props.Layout
