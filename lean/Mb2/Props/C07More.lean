/-
  C07 (continued): byte-exact images and accessor read-back for ALL argument values.

  * `contiguous_ctor_bytes`: for the fixed-size information tags whose arguments are stored in struct order, the image is
    exactly `header(type, size) ++ arguments` - for every argument blob.
  * `contiguous_ctor_readback`: hence every field of the SPECIFICATION's layout table (`Spec.fields`) reads back the
    argument stored at that position, whatever the argument values are.
  * `placed_ctor_readback`: and an accessor running on the tag as found in a loaded region (C04.field_decodes) returns it.
  * the dynamically sized constructors `module_ctor`, `smbios_ctor`, `network_ctor`, `elf_ctor` emit
    `header(type, 8 + |content|) ++ content` with the content in the specification's order.
-/
import Mb2.Props.C07Parts
import Mb2.Props.C04Parts
namespace Mb2.C07
open Mb2

theorem u8At_take' (b : Bytes) (n i : Nat) (h : i < n) : u8At (b.take n) i = u8At b i := u8At_take b n i h

theorem contiguous_kinds : ∀ c ∈ contiguousCtors, c.2.1.desc.fixed = 8 + c.2.2 ∧ ∀ f ∈ c.2.1.fields, 8 ≤ f.2.1 := by decide

theorem contiguous_ctor_img : ∀ c ∈ contiguousCtors, ∀ (p : Profile) (blob : Bytes), c.2.2 ≤ blob.length →
    ctorImpl p c.1 blob = .ok (sizedImg c.2.1.typ (8 + c.2.2) (blob.take c.2.2)) := by
  intro c hc p blob hlen
  obtain ⟨payload, hi, -, hp⟩ := sized_ctor_img c (List.mem_append_left _ hc) p blob hlen
  rwa [hp hc, (contiguous_kinds c hc).1] at hi

theorem contiguous_img_readback : ∀ c ∈ contiguousCtors, ∀ (blob : Bytes), ∀ f ∈ Spec.fields c.2.1.typ,
    leW (sizedImg c.2.1.typ (8 + c.2.2) (blob.take c.2.2)).bytes f.2.1 f.2.2 = leW blob (f.2.1 - 8) f.2.2 := by
  intro c hc blob f hf
  rw [← C04.layout_eq_spec] at hf
  obtain ⟨hfix, hbehind⟩ := contiguous_kinds c hc
  have hin := C04.fields_inside c.2.1 f hf
  have h8 := hbehind f hf
  show leW (mbiHdr _ _ ++ blob.take c.2.2) f.2.1 f.2.2 = _
  rw [show f.2.1 = (mbiHdr c.2.1.typ (8 + c.2.2)).length + (f.2.1 - 8) by rw [mbiHdr_length]; omega,
    leW_append_right _ _ _ _ hin.2, leW_take blob c.2.2 _ f.2.2 hin.2 (by omega), mbiHdr_length, Nat.add_sub_cancel_left]

theorem contiguous_ctor_bytes : ∀ c ∈ contiguousCtors, ∀ (p : Profile) (blob : Bytes), c.2.2 ≤ blob.length →
    ∃ img, ctorImpl p c.1 blob = .ok img ∧ img.typ = c.2.1.typ ∧ img.size = 8 + c.2.2 ∧
      img.bytes = mbiHdr c.2.1.typ (8 + c.2.2) ++ blob.take c.2.2 :=
  fun c hc p blob hlen => ⟨_, contiguous_ctor_img c hc p blob hlen, rfl, rfl, rfl⟩

/-- READ-BACK, all values: every field of the specification's layout table, read from the constructed image at the
    specified offset and width, is the argument the caller passed at that position (the blob is the little-endian
    concatenation of the arguments in the specification's field order, so field `(off, w)` is argument bytes
    `[off − 8, off − 8 + w)`). -/
theorem contiguous_ctor_readback : ∀ c ∈ contiguousCtors, ∀ (p : Profile) (blob : Bytes), c.2.2 ≤ blob.length →
    ∃ img, ctorImpl p c.1 blob = .ok img ∧
      ∀ f ∈ Spec.fields c.2.1.typ, leW img.bytes f.2.1 f.2.2 = leW blob (f.2.1 - 8) f.2.2 :=
  fun c hc p blob hlen => ⟨_, contiguous_ctor_img c hc p blob hlen, contiguous_img_readback c hc blob⟩

/-- read-back: an accessor at a field's specified offset returns the constructor argument (bytes of the blob) -/
theorem bootdev_readback (p : Profile) (blob : Bytes) (h : 12 ≤ blob.length) :
    ∃ img, ctorImpl p "bootdev" blob = .ok img ∧
      le32 img.bytes 8 = le32 blob 0 ∧ le32 img.bytes 12 = le32 blob 4 ∧ le32 img.bytes 16 = le32 blob 8 := by
  obtain ⟨img, hi, hf⟩ := contiguous_ctor_readback ("bootdev", .bootdev, 12) (by decide) p blob h
  exact ⟨img, hi, hf ("biosdev", 8, 4) (by decide), hf ("slice", 12, 4) (by decide), hf ("part", 16, 4) (by decide)⟩

/-- … and through the real accessor path: wherever the constructed image sits inside a loaded tag area (`v` = the typed
    view `get_tag` returns for it), every field accessor returns the constructor argument -/
theorem placed_ctor_readback : ∀ c ∈ contiguousCtors, ∀ (p : Profile) (blob : Bytes), c.2.2 ≤ blob.length →
    ∃ img, ctorImpl p c.1 blob = .ok img ∧
      ∀ (area : Bytes) (v : View), v.off + v.sov ≤ area.length → c.2.1.desc.fixed ≤ v.sov →
        slice area v.off img.size = img.bytes →
        ∀ f ∈ Spec.fields c.2.1.typ, rdW (v.bytes area) f.2.1 f.2.2 = .ok (leW blob (f.2.1 - 8) f.2.2) := by
  intro c hc p blob hlen
  refine ⟨_, contiguous_ctor_img c hc p blob hlen, fun area v hfit hsov hplace f hf => ?_⟩
  have hin := C04.fields_inside c.2.1 f (C04.layout_eq_spec c.2.1 ▸ hf)
  -- the field lies inside the image: reading it from the area at `v.off + off` = reading the placed image at `off`
  rw [C04.field_decodes area c.2.1 v hfit hsov f hf, ← contiguous_img_readback c hc blob f hf, ← hplace,
    leW_slice area v.off _ f.2.1 f.2.2 hin.2 ((contiguous_kinds c hc).1 ▸ hin.1)]

/-- `ModuleTag::new(start, end, cmdline)` for a text without NUL: start and end little-endian at 8 / 12, the text at 16,
    exactly one terminating NUL, size = 16 + |text| + 1; `end <= start` is rejected by a controlled panic -/
theorem module_ctor (p : Profile) (blob : Bytes) (h8 : 8 ≤ blob.length) (hs : ∀ b ∈ blob.drop 8, b ≠ 0)
    (hlen : blob.length < 2^61) :
    ctorImpl p "module" blob =
      (if ¬ le32 blob 4 > le32 blob 0 then .panic
       else .ok ⟨3, none, 16 + (blob.length - 8) + 1,
                 mbiHdr 3 (16 + (blob.length - 8) + 1) ++ blob.take 8 ++ blob.drop 8 ++ [0],
                 roundUp8 (16 + (blob.length - 8) + 1)⟩) := by
  by_cases hgt : le32 blob 4 > le32 blob 0
  · rw [if_neg (not_not_intro hgt), List.append_assoc, List.append_assoc]
    refine boxed_ctor_struct (heq := if_neg (not_not_intro hgt))
      (hfl := (strSlices_flatten [slice blob 0 4, slice blob 4 4] _).trans ?_) (hsz := by simp; omega)
      (ht := bytesDesc_truthful p 16 _ (by omega)) (hlen := by omega)
    rw [strContent_of_no_nul hs]
    simp only [List.flatten_cons, List.flatten_nil, List.append_nil, slice_zero, take_append_slice]
  · rw [if_pos hgt]; exact if_pos hgt

theorem smbios_ctor (p : Profile) (blob : Bytes) (h8 : 8 ≤ blob.length) (hlen : blob.length < 2^61) :
    ctorImpl p "smbios" blob =
      .ok ⟨13, none, 16 + (blob.length - 8),
           mbiHdr 13 (16 + (blob.length - 8)) ++ [UInt8.ofNat (u8At blob 0), UInt8.ofNat (u8At blob 1)] ++ zeros 6 ++ blob.drop 8,
           roundUp8 (16 + (blob.length - 8))⟩ := by
  rw [List.append_assoc, List.append_assoc]
  exact boxed_ctor_struct (heq := rfl) (hfl := by simp only [List.flatten_cons, List.flatten_nil, List.append_nil])
    (hsz := by simp; omega) (ht := bytesDesc_truthful p 16 _ (by omega)) (hlen := by omega)

theorem network_ctor (p : Profile) (blob : Bytes) (hlen : blob.length < 2^61) :
    ctorImpl p "network" blob = .ok ⟨16, none, 8 + blob.length, mbiHdr 16 (8 + blob.length) ++ blob, roundUp8 (8 + blob.length)⟩ :=
  boxed_ctor_struct (heq := rfl) (hfl := List.flatten_singleton) (hsz := rfl) (ht := networkDesc_truthful p _ (by omega))
    (hlen := by omega)

theorem elf_ctor (p : Profile) (blob : Bytes) (h12 : 12 ≤ blob.length) (hlen : blob.length < 2^61) :
    ctorImpl p "elf" blob =
      .ok ⟨9, none, 20 + (blob.length - 12), mbiHdr 9 (20 + (blob.length - 12)) ++ blob.take 12 ++ blob.drop 12,
           roundUp8 (20 + (blob.length - 12))⟩ := by
  rw [List.append_assoc]
  exact boxed_ctor_struct (heq := rfl)
    (hfl := by simp only [List.flatten_cons, List.flatten_nil, List.append_nil, ← List.append_assoc, slice_zero, take_append_slice])
    (hsz := by simp; omega) (ht := bytesDesc_truthful p 20 _ (by omega)) (hlen := by omega)

end Mb2.C07
