/-
  SOURCE = MODEL for `MaybeDynSized::dst_len` of the nine dynamically sized boot-information tags (multiboot2/src): seven are
  `size - BASE_SIZE` behind an assertion (`dst_len_of_dstDesc1`), the memory map goes on to assert divisibility by the entry
  size and divides, the network tag subtracts unchecked.
-/

import Mb2.Props.FnsBase
open Mb2 Mb2.Rir

namespace Mb2.Fns

theorem dst_len_of_dstDesc1 (p : Profile) (base size : Nat) (hs : size < W32) :
    evalO p [.int .u32 size] (some (.ite (.bin .ge (.cast (.var 0) .usize) (.tlit base .usize))
                                     (.bin .sub (.cast (.var 0) .usize) (.tlit base .usize)) .panic)) =
      some (intRes .usize ((dstDesc base 1).dstLen p size)) := by
  simp only [rir, mod_W64_of_lt_W32 hs, dstDesc, Nat.mod_one, Nat.div_one]
  simp +contextual only [usub_ok, Res.bind_ok]

theorem dst_len_boot_loader_name_eq (p : Profile) (size : Nat) (hs : size < W32) :
    evalO p [.int .u32 size] Gen.Fns.dst_len_boot_loader_name = some (intRes .usize ((Kind.desc .loader).dstLen p size)) :=
  dst_len_of_dstDesc1 p 8 size hs

theorem dst_len_command_line_eq (p : Profile) (size : Nat) (hs : size < W32) :
    evalO p [.int .u32 size] Gen.Fns.dst_len_command_line = some (intRes .usize ((Kind.desc .cmdline).dstLen p size)) :=
  dst_len_of_dstDesc1 p 8 size hs

theorem dst_len_module_eq (p : Profile) (size : Nat) (hs : size < W32) :
    evalO p [.int .u32 size] Gen.Fns.dst_len_module = some (intRes .usize ((Kind.desc .module).dstLen p size)) :=
  dst_len_of_dstDesc1 p 16 size hs

theorem dst_len_efi_memory_map_eq (p : Profile) (size : Nat) (hs : size < W32) :
    evalO p [.int .u32 size] Gen.Fns.dst_len_efi_memory_map = some (intRes .usize ((Kind.desc .efiMmap).dstLen p size)) :=
  dst_len_of_dstDesc1 p 16 size hs

theorem dst_len_framebuffer_eq (p : Profile) (size : Nat) (hs : size < W32) :
    evalO p [.int .u32 size] Gen.Fns.dst_len_framebuffer = some (intRes .usize ((Kind.desc .fb).dstLen p size)) :=
  dst_len_of_dstDesc1 p 32 size hs

theorem dst_len_elf_sections_eq (p : Profile) (size : Nat) (hs : size < W32) :
    evalO p [.int .u32 size] Gen.Fns.dst_len_elf_sections = some (intRes .usize ((Kind.desc .elf).dstLen p size)) :=
  dst_len_of_dstDesc1 p 20 size hs

theorem dst_len_smbios_eq (p : Profile) (size : Nat) (hs : size < W32) :
    evalO p [.int .u32 size] Gen.Fns.dst_len_smbios = some (intRes .usize ((Kind.desc .smbios).dstLen p size)) :=
  dst_len_of_dstDesc1 p 16 size hs

theorem dst_len_memory_map_eq (p : Profile) (size : Nat) (hs : size < W32) :
    evalO p [.int .u32 size] Gen.Fns.dst_len_memory_map = some (intRes .usize ((Kind.desc .mmap).dstLen p size)) := by
  simp only [Gen.Fns.dst_len_memory_map, rir, mod_W64_of_lt_W32 hs, Kind.desc, dstDesc]
  simp +contextual only [usub_ok, Res.bind_ok]

theorem dst_len_network_eq (p : Profile) (size : Nat) (hs : size < W32) :
    evalO p [.int .u32 size] Gen.Fns.dst_len_network = some (intRes .usize ((Kind.desc .network).dstLen p size)) := by
  simp only [Gen.Fns.dst_len_network, rir, mod_W64_of_lt_W32 hs, Kind.desc, networkDesc]

end Mb2.Fns
