/-
  C01, end to end: the complete sweep of a boot information (`Sweep.sweep` - the function the correspondence check compares
  with the real code on every SWEEP case) produces no `oob` and no `ub` piece. The assembly follows `Sweep.sweepLoaded`.
-/
import Mb2.Lemmas.Obs
import Mb2.Props.C01Parts
import Mb2.Props.C02
import Mb2.Props.C05
namespace Mb2.C01
open Mb2 Sweep

/-- what `get_tag` establishes about a typed view (the walk's guarantees and the cast's: `TagView`) -/
structure GoodView (p : Profile) (area : Bytes) (k : Kind) (v : View) : Prop where
  size8 : 8 ≤ v.size
  sov : v.sov = roundUp8 v.size
  fit : v.off + v.sov ≤ area.length
  len : (v.bytes area).length = v.sov
  cast : castTo p .tag k.desc v.size (v.size - 8) = .ok (v.sov, v.n)

theorem _root_.Mb2.TagView.good {p area k v} (g : TagView p .tag area k.typ k.desc v) : GoodView p area k v :=
  ⟨g.size8, g.sov, g.fit, g.len, g.cast⟩

theorem goodView_of_getTag (p : Profile) (area : Bytes) (k : Kind) (v : View)
    (hb : area.length % 8 = 0) (hlen : area.length < 2^62) (h : getTag p area k = .ok (some v)) :
    GoodView p area k v :=
  (getTag_view hb hlen h).good

theorem GoodView.fields {p area k v} (g : GoodView p area k v) : Obs.NoFault (fields (v.bytes area) k.fields) :=
  (noFault_fields _ _).mpr fun f hf => safe_of_ok <| fields_no_fault area k v g.fit
    ((castTo_eq_ok_iff.mp g.cast).2.2.2 ▸ k.desc.fixed_le_sizeOfVal (k.desc_align ▸ by decide) v.n) f hf

section
variable {p : Profile} {area : Bytes} {typ : Nat} {v : View}

theorem noFault_kfields (k : Kind) (g : TagView p .tag area typ k.desc v) :
    Obs.NoFault (fields (v.bytes area) k.fields) :=
  g.noFault_fields (k.desc_align ▸ by decide) (C04.fields_inside k)

/-! ### the bodies of the individual getters: each is fault-free on every `TagView` of its kind (`g.tail`: the tail the cast
    computed ends at the declared size, inside the extent) -/

theorem noFault_efiS (g : TagView p .tag area typ (Kind.desc .efiMmap) v) : Obs.NoFault (efiS (v.bytes area) v) := by
  obtain ⟨htail, hsize, -⟩ := g.tail
  unfold efiS
  simp only [nofault]
  refine ⟨by rw [C18.accept_iff _ v (by omega)]; exact safe_ite (safe_ok _) safe_panic, fun ⟨ds, cnt⟩ h i hi => ?_⟩
  obtain ⟨hds, h8, hcnt⟩ := C18.entries_ok (by omega) h
  obtain ⟨d, hd, -⟩ := efi_no_fault (v.bytes area) v ds cnt i (hT := by omega) (hds := hds) (h8 := h8) (hcnt := hcnt)
    (hi := List.mem_range.mp hi)
  exact safe_of_ok ⟨d, hd⟩

theorem elfOpen_safe (T : Bytes) (v : View) (hT : 20 ≤ T.length) : Safe (elfOpen T v) := by
  rw [C19.open_iff T v hT]; exact safe_ite (safe_ok _) safe_panic

theorem elfIter_end (T : Bytes) (v : View) (hT : 20 + v.n ≤ T.length) (num es : Nat) (h : elfOpen T v = .ok (num, es)) :
    (elfIter T es num 20).2 = .done ∨ (elfIter T es num 20).2 = .bad := by
  by_cases hes : es = 40 ∨ es = 64
  · exact .inl (elf_no_fault T v hT num es h hes).1
  · cases num with
    | zero => exact .inl rfl
    | succ n => rw [C19.iter_bad_size T es n 20 (fun e => hes (.inl e)) (fun e => hes (.inr e))]; exact .inr rfl

theorem noFault_elfS (g : TagView p .tag area typ (Kind.desc .elf) v) : Obs.NoFault (elfS (v.bytes area) v) := by
  obtain ⟨htail, hsize, -⟩ := g.tail
  unfold elfS
  simp only [nofault]
  exact ⟨noFault_kfields .elf g, elfOpen_safe _ v (by omega), fun ⟨num, es⟩ h => elfIter_end _ v (by omega) num es h⟩

theorem fbBufferType_safe (T : Bytes) (v : View) (hT : 32 + v.n ≤ T.length) : Safe (fbBufferType T v) := by
  have B : ∀ i, Safe (fbByte T v.n i) := fun i => (fb_byte_no_fault T v.n i hT).elim (· ▸ safe_panic) safe_of_ok
  rw [fbBufferType_eq T v (by omega)]
  refine safe_ite (safe_ok _) (safe_ite ?_ (safe_ite ?_ (safe_ok _)))
  · exact safe_bind _ _ (B 0) fun _ _ => safe_bind _ _ (B 1) fun _ _ => safe_ite (safe_ok _) safe_panic
  · exact safe_bind _ _ (B 0) fun _ _ => safe_bind _ _ (B 1) fun _ _ => safe_bind _ _ (B 2) fun _ _ =>
      safe_bind _ _ (B 3) fun _ _ => safe_bind _ _ (B 4) fun _ _ => safe_bind _ _ (B 5) fun _ _ => safe_ok _

/-- the palette is handed out from the declared bytes: `C05.palette_inside` puts it inside `[32, size)` -/
theorem noFault_fbTypeS (T : Bytes) (v : View) (hs : Safe (fbBufferType T v)) (hd : (declared T v).length = 32 + v.n) :
    Obs.NoFault (fbTypeS T v (fbBufferType T v)) := by
  unfold fbTypeS
  split
  next => exact noFault_t _ -- unknown type byte
  next po num hr => -- indexed
    have := C05.palette_inside T v po num hr
    exact (noFault_resS _ _).mpr (safe_rdSlice_iff.mpr (by omega))
  next => exact noFault_t _ -- rgb
  next => exact noFault_t _ -- text
  next => exact noFault_t _ -- panic
  next h => exact absurd h hs.1 -- oob
  next h => exact absurd h hs.2 -- ub

/-- `framebuffer_tag()` looks at `buffer_type()` first: an unknown type is reported in place of the tag -/
theorem noFault_fbBody (g : TagView p .tag area typ (Kind.desc .fb) v) :
    Safe (fbBufferType (v.bytes area) v) ∧ Obs.NoFault (fbS (v.bytes area) v) := by
  obtain ⟨htail, hsize, hdecl⟩ := g.tail
  have hs := fbBufferType_safe (v.bytes area) v (by omega)
  refine ⟨hs, ?_⟩
  unfold fbS
  simp only [nofault]
  exact ⟨noFault_kfields .fb g, noFault_fbTypeS _ v hs (by omega)⟩

theorem noFault_mmapS (g : TagView p .tag area typ (Kind.desc .mmap) v) : Obs.NoFault (mmapS (v.bytes area) v) := by
  obtain ⟨htail, hsize, -⟩ := g.tail
  unfold mmapS
  simp only [nofault]
  exact ⟨noFault_kfields .mmap g, C04.memoryAreas_eq (v.bytes area) v (by omega) ▸ safe_ite safe_panic (safe_ok _)⟩

theorem noFault_vbeS (g : TagView p .tag area typ (Kind.desc .vbe) v) : Obs.NoFault (vbeS (v.bytes area)) := by
  have hdec : ∀ f ∈ vbeControlFields ++ vbeModeFields, Safe (rdW (v.bytes area) f.1 f.2) := fun f hf =>
    have ⟨hin, hw⟩ := C04.vbe_fields_inside f hf
    safe_of_ok ⟨_, g.rdW_eq (by decide) (hw.imp_right (.imp_right .inl)) hin⟩
  unfold vbeS
  simp only [nofault, List.forall_mem_map, List.forall_mem_append, List.forall_mem_cons,
    List.not_mem_nil, false_imp_iff, implies_true]
  exact ⟨noFault_kfields .vbe g, fun f hf => hdec f (List.mem_append_left _ hf),
    fun f hf => hdec f (List.mem_append_right _ hf)⟩

theorem noFault_rsdpS (k : Kind) (g : TagView p .tag area typ k.desc v) (hk : 17 + 6 ≤ k.desc.fixed) {valid : Res Bool}
    (hv : Safe valid) : Obs.NoFault (rsdpS (v.bytes area) v valid k) := by
  have := g.fixed_le (k.desc_align ▸ by decide)
  unfold rsdpS
  simp only [nofault]
  -- the two slices: the signature `[8, 8 + 8)` and the OEM id `[17, 17 + 6)`
  exact ⟨by omega, hv, by omega, noFault_kfields k g⟩

theorem noFault_smbiosS (g : TagView p .tag area typ (Kind.desc .smbios) v) : Obs.NoFault (smbiosS (v.bytes area) v) := by
  obtain ⟨htail, -, hdecl⟩ := g.tail
  unfold smbiosS
  simp only [nofault]
  exact ⟨noFault_kfields .smbios g, safe_rdSlice_iff.mpr (by omega)⟩

theorem noFault_moduleS (g : TagView p .tag area typ (Kind.desc .module) v) : Obs.NoFault (moduleS (v.bytes area) v) := by
  obtain ⟨htail, hsize, hdecl⟩ := g.tail
  unfold moduleS
  simp only [nofault]
  refine ⟨noFault_kfields .module g, ?_, by omega⟩
  rw [rd32_ok (by omega), rd32_ok (by omega)]
  exact safe_ok _

theorem elfSectionsOpen_eq (T : Bytes) (v : View) (hT : 20 ≤ T.length) :
    elfSectionsOpen T v = if le32 T 12 * le32 T 16 > v.size then .panic else elfOpen T v := by
  unfold elfSectionsOpen; rw [rd32_ok (by omega), rd32_ok (by omega)]; rfl

theorem noFault_elfSectionsS (g : TagView p .tag area typ (Kind.desc .elf) v) :
    Obs.NoFault (elfSectionsS (v.bytes area) v) := by
  obtain ⟨htail, hsize, -⟩ := g.tail
  have hopen := elfSectionsOpen_eq (v.bytes area) v (by omega)
  unfold elfSectionsS
  simp only [nofault]
  refine ⟨hopen ▸ safe_ite safe_panic (elfOpen_safe _ v (by omega)),
    fun ⟨num, es⟩ h => elfIter_end _ v (by omega) num es ?_⟩
  exact ((ite_eq_iff_of_ne (by nofun)).mp (hopen ▸ h)).2

end

/-! ### modules -/

theorem modules_go_view {p : Profile} {area : Bytes} (w : List Item × End) (items : List Item)
    (hmem : ∀ it ∈ items, it ∈ (Spec.tagsOf .tag area).1) :
    (∀ v ∈ (moduleViews.go p w items).1, TagView p .tag area 3 (Kind.desc .module) v) ∧
    ((moduleViews.go p w items).2 = w.2 ∨ (moduleViews.go p w items).2 = .bad) := by
  fun_induction moduleViews.go p w items with
  | case1 => exact ⟨nofun, .inl rfl⟩
  | case2 it rest ht sov n hc r ih =>
    obtain ⟨hit, hrest⟩ := List.forall_mem_cons.mp hmem
    exact ⟨List.forall_mem_cons.mpr ⟨ht ▸ TagView.of_item C03.IterKind.tag hit rfl rfl hc, (ih hrest).1⟩, (ih hrest).2⟩
  | case3 => exact ⟨nofun, .inr rfl⟩
  | case4 it _ _ hc => exact absurd hc (cast_no_fault p .module it.size it.pl).1
  | case5 it _ _ hc => exact absurd hc (cast_no_fault p .module it.size it.pl).2
  | case6 _ _ _ ih => exact ih fun x hx => hmem x (List.mem_cons_of_mem _ hx)

theorem moduleViews_view {p : Profile} {area : Bytes} (hb : area.length % 8 = 0) (hlen : area.length < 2^62) :
    (∀ v ∈ (moduleViews p area).1, TagView p .tag area 3 (Kind.desc .module) v) ∧
    ((moduleViews p area).2 = .done ∨ (moduleViews p area).2 = .bad) := by
  have hw := walk_no_fault p area hb hlen
  unfold moduleViews
  rw [C03.tags_eq_spec p .tag C03.IterKind.tag area hb hlen] at hw ⊢
  have hg := modules_go_view (p := p) (area := area) (Spec.tagsOf .tag area) _ fun _ h => h
  exact ⟨hg.1, hg.2.elim (fun h => h ▸ hw) .inr⟩

theorem moduleViews_good (p : Profile) (area : Bytes) (hb : area.length % 8 = 0) (hlen : area.length < 2^62) :
    (∀ v ∈ (moduleViews p area).1, GoodView p area .module v) ∧
    ((moduleViews p area).2 = .done ∨ (moduleViews p area).2 = .bad) :=
  ⟨fun v hv => ((moduleViews_view hb hlen).1 v hv).good, (moduleViews_view hb hlen).2⟩

/-! ### assembly -/

section
variable {p : Profile} {area : Bytes} (hb : area.length % 8 = 0) (hlen : area.length < 2^62)
include hb hlen

theorem noFault_getTag (name : String) (k : Kind) (body : View → Obs)
    (h : ∀ v, TagView p .tag area k.typ k.desc v → Obs.NoFault (body v)) :
    Obs.NoFault (getter name (getTag p area k) body) :=
  (noFault_getter ..).mpr ⟨getTag_no_fault p area k hb hlen, fun v hv => h v (getTag_view hb hlen hv)⟩

theorem efiG_view : Safe (efiMemoryMapTag p area) ∧
    ∀ v, efiMemoryMapTag p area = .ok (some v) → TagView p .tag area 17 (Kind.desc .efiMmap) v := by
  have hbs := getTag_no_fault p area .efiBs hb hlen
  unfold efiMemoryMapTag
  split
  · exact ⟨safe_ok _, nofun⟩
  · exact ⟨getTag_no_fault p area .efiMmap hb hlen, fun v h => getTag_view hb hlen h⟩
  · exact ⟨safe_panic, nofun⟩
  · exact absurd ‹_› hbs.1
  · exact absurd ‹_› hbs.2

end

/-- **C01, end to end.** For EVERY loaded region (any content, any size that is a multiple of 8) the complete sweep - the
    tag walk, all 20 typed getters, every field accessor, the string / SMBIOS / palette slices (taken from the tag's
    DECLARED size), the memory-map, EFI-map, ELF-section and module iterators drained to the end, both RSDP checksums,
    the deprecated `elf_sections()` and `Debug` - contains no `oob` and no `ub` piece: every observation is a value, an
    error or a controlled panic. This is the very function whose rendering the correspondence check compares with the
    real code on every SWEEP case. -/
theorem sweepLoaded_no_fault (p : Profile) (R : Bytes) (h8 : R.length % 8 = 0) (hlen : R.length < 2^62) :
    Obs.NoFault (sweepLoaded p R) := by
  have hb : (R.drop 8).length % 8 = 0 := by rw [List.length_drop]; omega
  have hl : (R.drop 8).length < 2^62 := by rw [List.length_drop]; omega
  have G := @noFault_getTag p (R.drop 8) hb hl
  have simple : ∀ name k, Obs.NoFault (getter name (getTag p (R.drop 8) k) fun v => fields (v.bytes (R.drop 8)) k.fields) :=
    fun name k => G name k _ fun _ => noFault_kfields k
  unfold sweepLoaded
  -- one goal per part of the sweep; without `with_reducible` the `apply` would also split parts that are themselves `++`
  repeat' with_reducible apply noFault_append
  · unfold tagsS; simp only [nofault]; exact walk_no_fault p _ hb hl -- tags
  · exact simple _ _ -- apm
  · exact simple _ _ -- meminfo
  · refine G _ .loader _ fun v g => ?_ -- loader
    obtain ⟨htail, hsize, hdecl⟩ := g.tail
    simp only [nofault]
    exact ⟨noFault_kfields .loader g, by omega⟩
  · exact simple _ _ -- bootdev
  · refine G _ .cmdline _ fun v g => ?_ -- cmdline
    obtain ⟨htail, hsize, hdecl⟩ := g.tail
    simp only [nofault]
    omega
  · exact simple _ _ -- efi_bs
  · exact simple _ _ -- efi_ih32
  · exact simple _ _ -- efi_ih64
  · have e := efiG_view (p := p) hb hl -- efi_mmap
    exact (noFault_getter ..).mpr ⟨e.1, fun v h => noFault_efiS (e.2 v h)⟩
  · exact simple _ _ -- efi_sdt32
  · exact simple _ _ -- efi_sdt64
  · exact G _ .elf _ fun _ => noFault_elfS -- elf
  · unfold fbGetterS -- fb
    simp only [nofault]
    refine ⟨getTag_no_fault p _ .fb hb hl, fun v h => ?_⟩
    obtain ⟨hs, hf⟩ := noFault_fbBody (getTag_view hb hl h)
    split
    · exact noFault_t _ -- panic
    · exact absurd ‹_› hs.1 -- oob
    · exact absurd ‹_› hs.2 -- ub
    · exact noFault_t _ -- unknown type
    · simp only [nofault]; exact hf -- a known type: the tag's accessors
  · exact simple _ _ -- load_base
  · exact G _ .mmap _ fun _ => noFault_mmapS -- mmap
  · obtain ⟨m1, m2⟩ := moduleViews_view (p := p) hb hl -- modules
    unfold modulesS
    simp only [nofault]
    exact ⟨fun v hv => noFault_moduleS (m1 v hv), m2⟩
  · exact simple _ _ -- network
  · exact G _ .rsdp1 _ fun v g => -- rsdp1
      noFault_rsdpS .rsdp1 g (by decide) (C04.rsdp1_valid_iff _ (g.fixed_le (by decide)) ▸ safe_ok _)
  · exact G _ .rsdp2 _ fun v g => -- rsdp2
      noFault_rsdpS .rsdp2 g (by decide) (C04.rsdp2_valid_iff _ (g.fixed_le (by decide)) ▸ safe_ok _)
  · exact G _ .smbios _ fun _ => noFault_smbiosS -- smbios
  · exact G _ .vbe _ fun _ => noFault_vbeS -- vbe
  · unfold elfSectionsGetterS -- elf_sections
    simp only [nofault]
    exact ⟨getTag_no_fault p _ .elf hb hl, fun v h => noFault_elfSectionsS (getTag_view hb hl h)⟩
  · exact noFault_t _ -- debug

/-- **C01 from the pointer.** For every memory content behind the pointer whose declared region is readable, the sweep of
    `load` + everything reachable from the loaded object produces no fault: the outcome of every call is a value, an
    error or a controlled panic. Holds in both build profiles. -/
theorem sweep_no_fault (p : Profile) (mem : Bytes) (hmem : mem.length ≥ 8 ∧ mem.length ≥ le32 mem 0) :
    Obs.NoFault (sweep p mem) := by
  have hs : Safe (load p false mem) := safe_of_ok (C02.load_no_panic_no_oob p false mem fun _ => hmem)
  have h32 := le32_lt mem 0
  unfold sweep
  split
  next l h =>
    obtain ⟨rfl, h8, hm, -⟩ := (C02.load_eq_ok_iff p mem hmem l).mp h
    refine noFault_append (noFault_t _) (sweepLoaded_no_fault p _ ?_ ?_) <;> rw [List.length_take] <;> dsimp only <;> omega
  next => exact noFault_t _
  next => exact noFault_t _
  next => exact noFault_t _
  next h => exact absurd h hs.1
  next h => exact absurd h hs.2

/-- the rendered line of a fault-free observation is the concatenation of its text pieces (nothing is hidden by rendering) -/
theorem render_of_noFault (o : Obs) (h : Obs.NoFault o) :
    o.render = String.join (o.map fun x => match x with | .txt s => s | _ => "") := by
  unfold Obs.render
  congr 1
  apply List.map_congr_left
  intro x hx
  cases x with
  | txt s => rfl
  | oob => exact absurd rfl (h _ hx).1
  | ub => exact absurd rfl (h _ hx).2

/-! Non-vacuity: a minimal loadable region (header + end tag) satisfies the hypotheses and is swept completely. -/
example : ([16,0,0,0, 0,0,0,0, 0,0,0,0, 8,0,0,0] : Bytes).length ≥ 8 ∧
    ([16,0,0,0, 0,0,0,0, 0,0,0,0, 8,0,0,0] : Bytes).length ≥ le32 [16,0,0,0, 0,0,0,0, 0,0,0,0, 8,0,0,0] 0 := by decide
example : load .dev false [16,0,0,0, 0,0,0,0, 0,0,0,0, 8,0,0,0] = .ok (.ok ⟨0, 16, 16⟩) := by decide

end Mb2.C01
