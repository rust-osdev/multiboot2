/-
  SOURCE = MODEL for `BytesRef::try_from` (multiboot2-common/src/bytes_ref.rs) and, from multiboot2-common/src/lib.rs,
  `DynSizedStructure::ref_from_bytes` / `ref_from_ptr` / `ref_from_slice` and the default `Header::total_size`.
-/

import Mb2.Props.FnsBase
open Mb2 Mb2.Rir

namespace Mb2.Fns

/-- `BytesRef::try_from` (bytes_ref.rs) = `bytesRefTryFrom`: the three checks, in the code's order. `ao` is the value of
    `align_offset(ALIGNMENT)`, which is zero exactly for 8-aligned addresses. -/
theorem bytes_ref_try_from_eq (p : Profile) (k : HK) (addr len ao : Nat) (bytes : V) (hao : ao = 0 ↔ addr % 8 = 0) :
    evalO p [.int .usize len, .int .usize k.hsize, .int .usize ao, bytes] Gen.Fns.bytes_ref_try_from =
      some (.ok (match bytesRefTryFrom k addr len with
                 | .error e => .c1 "Err" (encMemErr e)
                 | .ok () => .c1 "Ok" bytes)) := by
  simp only [Gen.Fns.bytes_ref_try_from, rir, bytesRefTryFrom, hao]
  by_cases h1 : k.hsize ≤ len <;> by_cases h2 : addr % 8 = 0 <;> by_cases h3 : len % 8 = 0 <;>
    simp only [h1, h2, h3, if_true, if_false, encMemErr]

/-- the size guard of `DynSizedStructure::ref_from_bytes` (lib.rs): `payload_len() > bytes.len() - size_of::<H>()`;
    `hs ≤ len` holds because `BytesRef::try_from` has accepted the slice -/
theorem ref_from_bytes_eq (p : Profile) (pl len hs : Nat) (r : V) (h : hs ≤ len) :
    evalO p [.int .usize pl, .int .usize len, .int .usize hs, r] Gen.Fns.ref_from_bytes =
      some (.ok (if pl > len - hs then .c1 "Err" (encMemErr .invalidReportedTotalSize) else .c1 "Ok" r)) := by
  simp only [Gen.Fns.ref_from_bytes, rir, usub_ok p W64 _ _ h, encMemErr]

/-- default `Header::total_size` (lib.rs) = `size_of::<Self>() + payload_len()` -/
theorem header_total_size_default_eq (p : Profile) (hs pl : Nat) :
    evalO p [.int .usize hs, .int .usize pl] Gen.Fns.header_total_size_default = some (intRes .usize (uadd p W64 hs pl)) := by
  simp only [Gen.Fns.header_total_size_default, rir]

/-- `ref_from_ptr`: nothing but `ref_from_slice` on the slice it forms - no additional acceptance or rejection ... -/
theorem ref_from_ptr_eq (p : Profile) (r : V) :
    evalO p [r] Gen.Fns.ref_from_ptr = some (.ok r) := by
  simp only [Gen.Fns.ref_from_ptr, rir]

/-- ... and that slice starts at the pointer and spans exactly `hdr.total_size()` bytes (pinned on the source text) -/
theorem ref_from_ptr_slice_is_total_size :
    Gen.Fns.ref_from_ptr = none ∨
      ("slice", "slice::from_raw_parts(ptr.as_ptr().cast_const().cast::<u8>(),ptr.as_ptr().cast_const().total_size())")
        ∈ Gen.Fns.ref_from_ptr_aliases := by
  -- found by `eq_self` on the literal as it stands: this pin evaluates no string
  simp only [Gen.Fns.ref_from_ptr_aliases, List.mem_cons, eq_self, true_or, or_true]

/-- `ref_from_slice`: the error of `BytesRef::try_from` wins, otherwise the result of `ref_from_bytes` (`refFromSlice`) -/
theorem ref_from_slice_eq (p : Profile) (b r : V) (e : MemErr) :
    evalO p [.c1 "Ok" b, r] Gen.Fns.ref_from_slice = some (.ok r) ∧
    evalO p [.c1 "Err" (encMemErr e), r] Gen.Fns.ref_from_slice = some (.ok (.c1 "Err" (encMemErr e))) := by
  constructor <;> simp only [Gen.Fns.ref_from_slice, rir]

end Mb2.Fns
