/-
  SOURCE = MODEL for `impl Header for BootInformationHeader` (multiboot2/src/boot_information.rs): `payload_len`, `total_size`.
-/

import Mb2.Props.FnsBase
open Mb2 Mb2.Rir

namespace Mb2.Fns

theorem bi_header_payload_len_eq (p : Profile) (d : Nat) (hd : d < W32) :
    evalO p [.int .u32 d] Gen.Fns.bi_header_payload_len = some (intRes .usize (payloadLen p .bi d)) := by
  simp only [Gen.Fns.bi_header_payload_len, rir, mod_W64_of_lt_W32 hd, payloadLen]

theorem bi_header_total_size_eq (p : Profile) (d : Nat) (hd : d < W32) :
    evalO p [.int .u32 d] Gen.Fns.bi_header_total_size = some (intRes .usize (totalSize p .bi d)) := by
  simp only [Gen.Fns.bi_header_total_size, rir, mod_W64_of_lt_W32 hd, totalSize]

end Mb2.Fns
