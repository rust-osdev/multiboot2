/-
  C09 — Header parsing never reads outside the declared header (under the hypothesis that enumerated fields hold
  defined values: the model says `ub` otherwise, see C08).
-/
import Mb2.Props.TagView
namespace Mb2.C09
open Mb2

/-- the walk over the tag area of the header never faults: it ends `done` or in a controlled panic -/
theorem walk_no_fault (p : Profile) (area : Bytes) (hb : area.length % 8 = 0) (hlen : area.length < 2^62) :
    (tagsOf p .ht area).2 = .done ∨ (tagsOf p .ht area).2 = .bad :=
  C03.tagsOf_end p C03.IterKind.ht hb hlen

/-- a malformed tag size (below 8, or leaving the declared length) ends the walk in a controlled panic in BOTH profiles -/
theorem bad_size_panics (p : Profile) (area : Bytes) (off : Nat)
    (hb : area.length % 8 = 0) (hlen : area.length < 2^62) (ho : off % 8 = 0) (hlt : off < area.length)
    (hbad : le32 area (off + 4) < 8 ∨ off + roundUp8 (le32 area (off + 4)) > area.length) :
    tagIterNext p .ht area off = .panic := by
  rw [tagIterNext_eq p .ht C03.IterKind.ht area off hb hlen ho (by omega), if_neg (by omega)]
  exact if_pos hbad

theorem cast_no_fault (p : Profile) (k : HKind) (size pl : Nat) :
    castTo p .ht k.desc size pl ≠ .oob ∧ castTo p .ht k.desc size pl ≠ .ub :=
  castTo_safe (k.desc_safe p size) .ht pl

/-- every typed getter of the header: a view, nothing, or a controlled panic -/
theorem hgetTag_no_fault (p : Profile) (area : Bytes) (k : HKind) (hb : area.length % 8 = 0) (hlen : area.length < 2^62) :
    hgetTag p area k ≠ .oob ∧ hgetTag p area k ≠ .ub :=
  firstCast_safe (walk_no_fault p area hb hlen) fun it => cast_no_fault p k it.size it.pl

theorem hgetTag_view {p : Profile} {area : Bytes} {k : HKind} {v : View} (hb : area.length % 8 = 0)
    (hlen : area.length < 2^62) (h : hgetTag p area k = .ok (some v)) : TagView p .ht area k.typ k.desc v :=
  TagView.of_firstCast C03.IterKind.ht hb hlen h

/-- every typed view lies inside its tag, which lies inside the declared header length -/
theorem view_inside_tag (p : Profile) (area : Bytes) (k : HKind) (v : View)
    (hb : area.length % 8 = 0) (hlen : area.length < 2^62) (h : hgetTag p area k = .ok (some v)) :
    v.off % 8 = 0 ∧ 8 ≤ v.size ∧ v.sov = roundUp8 v.size ∧ v.off + v.sov ≤ area.length ∧ (v.bytes area).length = v.sov :=
  have g := hgetTag_view hb hlen h
  ⟨g.aligned, g.size8, g.sov, g.fit, g.len⟩

/-- the information-request words are read inside the tag -/
theorem inforeq_words_inside (T : Bytes) (size n i : Nat) (hT : roundUp8 size ≤ T.length) (hn : 8 + n * 4 = size) (hi : i < n) :
    ∃ x, rd32 T (8 + 4 * i) = .ok x :=
  have := roundUp8_ge size
  ⟨_, rd32_ok (by omega)⟩

/-- termination: at most `len/8` tags -/
theorem walk_bounded (p : Profile) (area : Bytes) (hb : area.length % 8 = 0) (hlen : area.length < 2^62) :
    (tagsOf p .ht area).1.length ≤ area.length / 8 :=
  C03.tagsOf_length_le p C03.IterKind.ht hb hlen

end Mb2.C09
