/-
  SOURCE = MODEL for the ELF section iterator (elf_sections.rs): one iteration of the `while` loop of `ElfSectionIter::next` as
  a step function, `ElfSection::get` (entry-size dispatch), `ElfSection::end_address`.
-/
import Mb2.Props.FnsBase
open Mb2 Mb2.Rir

namespace Mb2.Fns

/-- `ElfSectionIter::next`, sections remaining: the section at the cursor is taken, the cursor advances by the entry size
    (opaque pointer `nxt`), the counter is decremented; the section is RETURNED when its type is in use and SKIPPED
    (`continue`) when it is `Unused` - the step of the model's `elfIter`. Result = ((outcome, cursor), remaining). -/
theorem elf_iter_next_step_eq (p : Profile) (rem : Nat) (ty : String) (cur str es nxt : V) (hr : rem ≠ 0) (hlt : rem < W32) :
    evalO p [.int .u32 rem, .c0 ty, cur, str, es, nxt] Gen.Fns.elf_iter_next =
      some (.ok (.pair (.pair (if ty ≠ "ElfSectionType::Unused" then .c1 "Some" (.pair cur (.pair str es)) else .c0 "continue") nxt)
                       (.int .u32 (rem - 1)))) := by
  simp only [Gen.Fns.elf_iter_next, rir, hr, usub_ok p W32 rem 1 (Nat.pos_of_ne_zero hr)]

/-- no sections remaining: `None`, nothing is read, the state is unchanged (exhaustion is sticky) -/
theorem elf_iter_next_done_eq (p : Profile) (ty cur str es nxt : V) :
    evalO p [.int .u32 0, ty, cur, str, es, nxt] Gen.Fns.elf_iter_next =
      some (.ok (.pair (.pair (.c0 "None") cur) (.int .u32 0))) := by
  simp only [Gen.Fns.elf_iter_next, rir]

/-- `ElfSection::get`: an entry size other than 40 / 64 is a controlled panic before any field is read (`sec_at_bad_size`) -/
theorem elf_section_get_eq (p : Profile) (es : Nat) (inner : V) :
    evalO p [.int .u32 es, inner] Gen.Fns.elf_section_get = some (if es = 40 ∨ es = 64 then .ok inner else .panic) := by
  simp only [Gen.Fns.elf_section_get, rir]

/-- `ElfSection::end_address` = `(addr + size) mod 2^64` (as `elfSecAt` computes it) -/
theorem elf_end_address_eq (p : Profile) (a s : Nat) :
    evalO p [.int .u64 a, .int .u64 s] Gen.Fns.elf_end_address = some (.ok (.int .u64 ((a + s) % W64))) := by
  simp only [Gen.Fns.elf_end_address, rir]

end Mb2.Fns
