/-
  The impl blocks (as tables, see `FnsTblLookup.lean`) of multiboot2/src/elf_sections.rs: `ElfSection`, the trait
  `ElfSectionInner` with its 32- and 64-bit impls, `Iterator` / `ExactSizeIterator for ElfSectionIter`, `ElfSectionsTag`.
-/

import Mb2.Props.FnsTblLookup
import Mb2.Props.FnsCtor
open Mb2 Mb2.Rir

namespace Mb2.Fns


-- BEGIN TABLES (generated once by a script from the unchanged tree, then REVIEWED row by row)
theorem tbl_elf_section_eq : Gen.Fns.tbl_elf_section = some [
  ("section_type->ElfSectionType", "covered", none, [], []),
  ("section_type_raw->u32", "ir", some (.var 0), ["self.get().typ()"], []),
  ("name->Result<&str,Utf8Error>", "text", none, ["{use core::{slice,str};let name_ptr=unsafe{self.string_table().offset(self.get().name_index()as isize)};let strlen={let mut len=0;while unsafe{*name_ptr.offset(len)}!=0{len+=1;}len as usize};str::from_utf8(unsafe{slice::from_raw_parts(name_ptr,strlen)})}"], []),
  ("start_address->u64", "ir", some (.var 0), ["self.get().addr()"], []),
  ("end_address->u64", "covered", none, [], []),
  ("size->u64", "ir", some (.var 0), ["self.get().size()"], []),
  ("addralign->u64", "ir", some (.var 0), ["self.get().addralign()"], []),
  ("flags->ElfSectionFlags", "ir", some (.var 0), ["ElfSectionFlags::from_bits_truncate(self.get().flags())"], []),
  ("is_allocated->bool", "ir", some (.var 0), ["self.flags().contains(ElfSectionFlags::ALLOCATED)"], []),
  ("get->&dynElfSectionInner", "covered", none, [], []),
  ("string_table->*constu8", "text", none, ["{let addr=match self.entry_size{40=>(*(self.string_section as*const ElfSectionInner32)).addr as usize,64=>(*(self.string_section as*const ElfSectionInner64)).addr as usize,s=>panic!(\"...\",s),};addr as*const _}"], [])] := rfl

theorem tbl_elf32_eq : Gen.Fns.tbl_elf32 = some [
  ("name_index->u32", "ir", some (.var 0), ["self.name_index"], []),
  ("typ->u32", "ir", some (.var 0), ["self.typ"], []),
  ("flags->u64", "ir", some (.var 0), ["self.flags.into()"], []),
  ("addr->u64", "ir", some (.var 0), ["self.addr.into()"], []),
  ("size->u64", "ir", some (.var 0), ["self.size.into()"], []),
  ("addralign->u64", "ir", some (.var 0), ["self.addralign.into()"], [])] := rfl

theorem tbl_elf64_eq : Gen.Fns.tbl_elf64 = some [
  ("name_index->u32", "ir", some (.var 0), ["self.name_index"], []),
  ("typ->u32", "ir", some (.var 0), ["self.typ"], []),
  ("flags->u64", "ir", some (.var 0), ["self.flags"], []),
  ("addr->u64", "ir", some (.var 0), ["self.addr"], []),
  ("size->u64", "ir", some (.var 0), ["self.size"], []),
  ("addralign->u64", "ir", some (.var 0), ["self.addralign"], [])] := rfl

theorem tbl_elf_inner_trait_eq : Gen.Fns.tbl_elf_inner_trait = some [
  ("name_index->u32", "decl", none, [], []),
  ("typ->u32", "decl", none, [], []),
  ("flags->u64", "decl", none, [], []),
  ("addr->u64", "decl", none, [], []),
  ("size->u64", "decl", none, [], []),
  ("addralign->u64", "decl", none, [], [])] := rfl

theorem tbl_elf_iter_eq : Gen.Fns.tbl_elf_iter = some [
  ("next->Option<ElfSection<'a>>", "covered", none, [], []),
  ("size_hint->(usize,Option<usize>)", "ir", some (.pair (.cast (.var 0) .usize) (.c1 "Some" (.cast (.var 0) .usize))), ["self.remaining_sections"], [])] := rfl

theorem tbl_elf_iter_len_eq : Gen.Fns.tbl_elf_iter_len = some [
  ("len->usize", "ir", some (.cast (.var 0) .usize), ["self.remaining_sections"], [])] := rfl

theorem tbl_elf_tag_eq : Gen.Fns.tbl_elf_tag = some [
  ("new->Box<Self>", "ir", some (.letIn 101 (.pair (.lit 9) (.cast (.lit 0) .u32)) (.c1 "new_boxed" (.pair (.var 101) (.pair (.var 0) (.pair (.var 1) (.pair (.var 2) (.var 3))))))), ["number_of_sections.to_ne_bytes()", "entry_size.to_ne_bytes()", "shndx.to_ne_bytes()", "sections"], ["let number_of_sections=number_of_sections.to_ne_bytes()", "let entry_size=entry_size.to_ne_bytes()", "let shndx=shndx.to_ne_bytes()"]),
  ("sections->ElfSectionIter", "covered", none, [], []),
  ("number_of_sections->u32", "ir", some (.var 0), ["self.number_of_sections"], []),
  ("entry_size->u32", "ir", some (.var 0), ["self.entry_size"], []),
  ("shndx->u32", "ir", some (.var 0), ["self.shndx"], [])] := rfl

-- END TABLES

/-! ### what the pinned rows mean -/

/-- `size_hint()` = `(remaining, Some(remaining))` and `len()` = `remaining` (the model's `rem` countdown) -/
theorem elf_iter_size_hint_eq (p : Profile) (r : Nat) (hr : r < W32) :
    evalO p [.int .u32 r] (tblRow Gen.Fns.tbl_elf_iter "size_hint->(usize,Option<usize>)") =
      some (.ok (.pair (.int .usize r) (.c1 "Some" (.int .usize r)))) ∧
    evalO p [.int .u32 r] (tblRow Gen.Fns.tbl_elf_iter_len "len->usize") = some (.ok (.int .usize r)) := by
  rw [tbl_elf_iter_eq, tbl_elf_iter_len_eq, tblRow_tail (by decide), tblRow_head, tblRow_head]
  simp only [rir, mod_W64_of_lt_W32 hr, and_self]

/-- `ElfSectionsTag::new`: header (type 9, size patched by `new_boxed`) and the content slices in the order of the
    struct: count, entry size, string-table index, section bytes -/
theorem elf_tag_new_eq (p : Profile) (n es sh secs : V) :
    evalO p [n, es, sh, secs] (tblRow Gen.Fns.tbl_elf_tag "new->Box<Self>") =
      some (.ok (.c1 "new_boxed" (.pair (mbiHdrV (Kind.typ .elf) 0) (.pair n (.pair es (.pair sh secs)))))) ∧
    tblVars Gen.Fns.tbl_elf_tag "new->Box<Self>" =
      ["number_of_sections.to_ne_bytes()", "entry_size.to_ne_bytes()", "shndx.to_ne_bytes()", "sections"] := by
  rw [tbl_elf_tag_eq, tblRow_head, tblVars_head]
  exact ⟨rfl, rfl⟩

/-- the flag bits `ElfSection::flags()` keeps (`from_bits_truncate`): writable 1, allocated 2, executable 4 - the model's
    `fl % 8`; `is_allocated()` tests the flag of value 2 -/
theorem elf_section_flags_bits :
    Gen.Fns.bitflags.map (·.lookup "ElfSectionFlags") =
      some (some ("u64", [("WRITABLE", 1), ("ALLOCATED", 2), ("EXECUTABLE", 4)])) := rfl

end Mb2.Fns
