/-
  SOURCE = MODEL for `Multiboot2BasicHeader` (multiboot2-header/src/header.rs): `payload_len`, `total_size`, `calc_checksum`,
  `verify_checksum`.
-/

import Mb2.Props.FnsBase
open Mb2 Mb2.Rir

namespace Mb2.Fns

theorem hb_header_payload_len_eq (p : Profile) (d : Nat) (hd : d < W32) :
    evalO p [.int .u32 d] Gen.Fns.hb_header_payload_len = some (intRes .usize (payloadLen p .hb d)) := by
  simp only [Gen.Fns.hb_header_payload_len, rir, mod_W64_of_lt_W32 hd, payloadLen]

theorem hb_header_total_size_eq (p : Profile) (d : Nat) (hd : d < W32) :
    evalO p [.int .u32 d] Gen.Fns.hb_header_total_size = some (intRes .usize (totalSize p .hb d)) := by
  simp only [Gen.Fns.hb_header_total_size, rir, mod_W64_of_lt_W32 hd, totalSize]

theorem calc_checksum_eq (p : Profile) (m a l : Nat) (ha : a < W32) :
    evalO p [.int .u32 m, .int .u32 a, .int .u32 l] Gen.Fns.calc_checksum = some (.ok (.int .u32 (calcChecksum m a l))) := by
  rw [calcChecksum_mod m a l ha]; rfl

theorem verify_checksum_eq (p : Profile) (m a l ck : Nat) (ha : a < W32) :
    evalO p [.int .u32 m, .int .u32 a, .int .u32 l, .int .u32 ck] Gen.Fns.verify_checksum =
      some (.ok (.bool (decide (calcChecksum m a l = ck)))) := by
  rw [calcChecksum_mod m a l ha]; rfl

end Mb2.Fns
