/-
  SOURCE = MODEL for the decision / arithmetic core: what the `Fns*` modules share.

  `tools/gen_fns.py` translates function bodies of /repo's working tree into closed terms of the IR of `Mb2/Rir.lean`
  (`Mb2/Gen/Fns.lean`, regenerated on every run). Each theorem of a `Fns*` module states, for ALL argument values, that
  evaluating the translated body (`Rir.eval`, both build profiles) yields exactly what the hand-written model function yields.
  Together with the property theorems (which are about the model functions) this makes the model's decisions a checked
  consequence of what the source says now: a change of a guard, a constant, an operator, an integer width, an arm of a
  conversion table or of the order of two checks changes the generated term and breaks the corresponding proof obligation.

  A theorem is stated as `evalO p [a₀, a₁, …] Gen.Fns.f = some ..`. Argument `i` of the list is the input `Gen.Fns.f_vars[i]` of
  the translated body (a loop body `f_loop0` has the inputs of `f`). `evalO` maps over the `Option`: a body the translator
  cannot find or read is emitted as `none`, and its evaluation theorem fails like that of a changed body. The pins of source
  text (`pinned`, `pinnedList`, the `_aliases` pins) hold on `none`: there the loss shows only in the evidence of the check
  (`functions_not_translatable`), as lost coverage.

  A proof is `simp only [Gen.Fns.f, rir, <arithmetic facts>]` (the set: `Lemmas/Rir.lean`), where needed with two more stages.
  A checked subtraction, or a division, behind its guard needs the guard as a hypothesis: `simp +contextual only [usub_ok,
  Res.bind_ok]` on the evaluated term (contextual `simp` with the whole `rir` set costs twice as much on a long body). An
  encoder (`enc…`) is unfolded last and alone: unfolded earlier, `simp` opens its `match` on an argument that is no constructor
  yet and `apply_ite (enc…)` no longer applies; and it computes only once the arithmetic facts have turned the binds into `.ok`.
  A model constant inside the condition of an `if` (`HMAGIC`, `calcChecksum`) is unfolded BEFORE `rir` runs, by `unfold` in
  front: unfolded by `simp` under the condition, the `Decidable` instance is rebuilt, and the two sides print alike and no
  longer match.

  Here: the encoders that several modules share (`intRes`, `typed`, `encMemErr`; the encoder of one conversion stands beside
  its theorem) and the arithmetic facts the evaluated bodies need.
-/

import Mb2.Gen.Fns
import Mb2.Common
import Mb2.Header
import Mb2.Mbi
import Mb2.Ids
import Mb2.Tags
import Mb2.HTags
import Mb2.Lemmas.Arith
import Mb2.Lemmas.Bits
import Mb2.Lemmas.Rir
open Mb2 Mb2.Rir

namespace Mb2.Fns

/-- a model result (`Res Nat`) as an IR value of integer type `t` -/
def intRes (t : Ty) (r : Res Nat) : Res V := r >>= fun n => .ok (.int t n)

@[simp] theorem intRes_ok (t : Ty) (n : Nat) : intRes t (.ok n) = .ok (.int t n) := rfl

@[simp] theorem intRes_panic (t : Ty) : intRes t .panic = .panic := rfl

@[simp] theorem intRes_oob (t : Ty) : intRes t .oob = .oob := rfl

@[simp] theorem intRes_ub (t : Ty) : intRes t .ub = .ub := rfl

attribute [rir] intRes

/-- an untyped literal result takes the function's return type -/
def typed (t : Ty) : V → V
  | .lit n => .int t n
  | v => v

def encMemErr : MemErr → V
  | .null => .c0 "MemoryError::Null"
  | .wrongAlignment => .c0 "MemoryError::WrongAlignment"
  | .shorterThanHeader => .c0 "MemoryError::ShorterThanHeader"
  | .missingPadding => .c0 "MemoryError::MissingPadding"
  | .invalidReportedTotalSize => .c0 "MemoryError::InvalidReportedTotalSize"

theorem mod_W64_of_lt_W32 {d : Nat} (h : d < W32) : d % W64 = d :=
  Nat.mod_eq_of_lt (Nat.lt_trans h (by decide))

theorem add_lt_W64 {a b : Nat} (ha : a < W32) (hb : b < W32) : a + b < W64 :=
  Nat.lt_trans (Nat.add_lt_add ha hb) (by decide)

theorem umul_W64_of_le_W32 (p : Profile) {a b : Nat} (ha : a ≤ W32) (hb : b < W32) : umul p W64 a b = .ok (a * b) :=
  umul_ok p _ _ _ (Nat.lt_of_le_of_lt (Nat.mul_le_mul_right b ha) (Nat.mul_lt_mul_of_pos_left hb (by decide)))

/-- The source computes the checksum from `arch as u32`; on a value that already is a `u32` the cast changes nothing. Rewriting
    the model side with this makes it the very expression the translated bodies compute (`calc_checksum`, `verify_checksum`,
    `new`, `set_size`), and `rfl` evaluates both. -/
theorem calcChecksum_mod (m a l : Nat) (ha : a < W32) : calcChecksum m a l = calcChecksum m (a % W32) l := by
  rw [Nat.mod_eq_of_lt ha]

/-- what follows an unchecked addition only sees sums below the modulus -/
theorem uadd_bind_congr {α} (p : Profile) {w : Nat} (a b : Nat) {f g : Nat → Res α} (hw : 0 < w)
    (h : ∀ s, s < w → f s = g s) : uadd p w a b >>= f = uadd p w a b >>= g := by
  unfold uadd
  split
  · exact h _ ‹_›
  · cases p
    · rfl
    · exact h _ (Nat.mod_lt _ hw)

/-- `incAlign` in the code's own words: `(n + 7) & !7` on `usize` -/
theorem incAlign_eq_band (p : Profile) (n : Nat) :
    incAlign p n = uadd p W64 n 7 >>= fun s => .ok (s &&& (W64 - 1 - 7)) :=
  uadd_bind_congr p n 7 (by decide) fun s hs => by rw [and_not7_nat s hs]; rfl

end Mb2.Fns
