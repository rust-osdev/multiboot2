/-
  Layout — the SOURCE-DERIVED tie. `Mb2/Gen/Source.lean` is regenerated from the Rust sources of /repo on every run
  (tools/gen_source.py: repr(C) / packed / align(N) layout of every tag struct, the `Tag::ID` constants, the `BASE_SIZE`
  constants, the field each one-line accessor returns). The theorems below compare those facts with the hand-written model
  tables (`Kind.typ`, `Kind.desc`, `Kind.fields`, `HKind.*`, the VBE tables) - which `C04.layout_eq_spec`,
  `C04.fixed_size_eq_spec`, `C11.layout_eq_spec` tie to the specification's tables. So a change of the source that moves a
  field, swaps two accessors, changes an ID or a BASE_SIZE breaks a theorem here even before any input is generated.
  A fact the translator could not derive is `none` and agrees with everything (a refactor it does not understand is not an
  alarm); `derivedCount` shows how many facts are live.
-/
import Mb2.Gen.Source
import Mb2.Tags
import Mb2.HTags
namespace Mb2.Layout
open Mb2 Mb2.Gen

/-- a derived fact agrees with the model value -/
def agrees {α} [BEq α] (g : Option α) (m : α) : Bool :=
  match g with
  | none => true
  | some x => x == m

def agreesAll {α} [BEq α] : List (Option α) → List α → Bool
  | [], [] => true
  | g :: gs, m :: ms => agrees g m && agreesAll gs ms
  | _, _ => false

def shift (d : Nat) (g : Option (Nat × Nat)) : Option (Nat × Nat) := g.map fun (o, w) => (o + d, w)

/-- the unsized tail: a dynamically sized struct's tail starts at the model's fixed part and has the model's element size; a
    sized struct has none -/
def tailAgrees (g : Option (Nat × Nat)) (fixed : Nat) (elem : Option Nat) : Bool :=
  match elem with
  | some el => agrees g (fixed, el)
  | none => g.isNone

/-- end of the last field = the unpadded fixed part -/
def fixedEnd (g : Option (List (Nat × Nat))) : Option Nat := g.map fun l => l.foldl (fun acc (o, w) => max acc (o + w)) 0

/-! ### boot-information tags -/

/-- (kind, derived ID, derived BASE_SIZE, derived end of the fixed fields, derived (tail offset, element size)) -/
def kindFacts : List (Kind × Option Nat × Option Nat × Option Nat × Option (Nat × Nat)) :=
  [(.end_, EndTag_id, EndTag_base, fixedEnd EndTag_fields, EndTag_tail),
   (.cmdline, CommandLineTag_id, CommandLineTag_base, fixedEnd CommandLineTag_fields, CommandLineTag_tail),
   (.loader, BootLoaderNameTag_id, BootLoaderNameTag_base, fixedEnd BootLoaderNameTag_fields, BootLoaderNameTag_tail),
   (.module, ModuleTag_id, ModuleTag_base, fixedEnd ModuleTag_fields, ModuleTag_tail),
   (.meminfo, BasicMemoryInfoTag_id, BasicMemoryInfoTag_base, fixedEnd BasicMemoryInfoTag_fields, BasicMemoryInfoTag_tail),
   (.bootdev, BootdevTag_id, BootdevTag_base, fixedEnd BootdevTag_fields, BootdevTag_tail),
   (.mmap, MemoryMapTag_id, MemoryMapTag_base, fixedEnd MemoryMapTag_fields, MemoryMapTag_tail),
   (.vbe, VBEInfoTag_id, VBEInfoTag_base, fixedEnd VBEInfoTag_fields, VBEInfoTag_tail),
   (.fb, FramebufferTag_id, FramebufferTag_base, fixedEnd FramebufferTag_fields, FramebufferTag_tail),
   (.elf, ElfSectionsTag_id, ElfSectionsTag_base, fixedEnd ElfSectionsTag_fields, ElfSectionsTag_tail),
   (.apm, ApmTag_id, ApmTag_base, fixedEnd ApmTag_fields, ApmTag_tail),
   (.efiSdt32, EFISdt32Tag_id, EFISdt32Tag_base, fixedEnd EFISdt32Tag_fields, EFISdt32Tag_tail),
   (.efiSdt64, EFISdt64Tag_id, EFISdt64Tag_base, fixedEnd EFISdt64Tag_fields, EFISdt64Tag_tail),
   (.smbios, SmbiosTag_id, SmbiosTag_base, fixedEnd SmbiosTag_fields, SmbiosTag_tail),
   (.rsdp1, RsdpV1Tag_id, RsdpV1Tag_base, fixedEnd RsdpV1Tag_fields, RsdpV1Tag_tail),
   (.rsdp2, RsdpV2Tag_id, RsdpV2Tag_base, fixedEnd RsdpV2Tag_fields, RsdpV2Tag_tail),
   (.network, NetworkTag_id, NetworkTag_base, fixedEnd NetworkTag_fields, NetworkTag_tail),
   (.efiMmap, EFIMemoryMapTag_id, EFIMemoryMapTag_base, fixedEnd EFIMemoryMapTag_fields, EFIMemoryMapTag_tail),
   (.efiBs, EFIBootServicesNotExitedTag_id, EFIBootServicesNotExitedTag_base, fixedEnd EFIBootServicesNotExitedTag_fields,
     EFIBootServicesNotExitedTag_tail),
   (.efiIh32, EFIImageHandle32Tag_id, EFIImageHandle32Tag_base, fixedEnd EFIImageHandle32Tag_fields, EFIImageHandle32Tag_tail),
   (.efiIh64, EFIImageHandle64Tag_id, EFIImageHandle64Tag_base, fixedEnd EFIImageHandle64Tag_fields, EFIImageHandle64Tag_tail),
   (.loadBase, ImageLoadPhysAddrTag_id, ImageLoadPhysAddrTag_base, fixedEnd ImageLoadPhysAddrTag_fields, ImageLoadPhysAddrTag_tail)]

/-- all 22 kinds are covered -/
theorem kindFacts_complete : ∀ k : Kind, k ∈ kindFacts.map (·.1) := by intro k; cases k <;> decide

/-- the `Tag::ID` constant of every tag struct is the model's (= the specification's) type number -/
theorem ids_match : ∀ e ∈ kindFacts, agrees e.2.1 e.1.typ = true := by decide

/-- every `BASE_SIZE` constant is the model's -/
theorem base_sizes_match : ∀ e ∈ kindFacts, agrees e.2.2.1 e.1.desc.baseSize = true := by decide

/-- the fixed fields of every struct end where the model's fixed part ends; a dynamically sized struct's tail starts there
    and has the model's element size -/
theorem fixed_parts_match : ∀ e ∈ kindFacts,
    agrees e.2.2.2.1 e.1.desc.fixed = true ∧ tailAgrees e.2.2.2.2 e.1.desc.fixed e.1.desc.elem = true := by decide

/-- the field each accessor returns, in the order of the model's `Kind.fields` -/
def accFacts : List (Kind × List (Option (Nat × Nat))) :=
  [(.apm, [ApmTag_acc_version, ApmTag_acc_cseg, ApmTag_acc_offset, ApmTag_acc_cset_16, ApmTag_acc_dseg, ApmTag_acc_flags,
           ApmTag_acc_cseg_len, ApmTag_acc_cseg_16_len, ApmTag_acc_dseg_len]),
   (.meminfo, [BasicMemoryInfoTag_acc_memory_lower, BasicMemoryInfoTag_acc_memory_upper]),
   (.bootdev, [BootdevTag_acc_biosdev, BootdevTag_acc_slice, BootdevTag_acc_part]),
   (.efiIh32, [EFIImageHandle32Tag_acc_image_handle]),
   (.efiIh64, [EFIImageHandle64Tag_acc_image_handle]),
   (.efiSdt32, [EFISdt32Tag_acc_sdt_address]),
   (.efiSdt64, [EFISdt64Tag_acc_sdt_address]),
   (.loadBase, [ImageLoadPhysAddrTag_acc_load_base_addr]),
   (.module, [ModuleTag_acc_start_address, ModuleTag_acc_end_address]),
   (.mmap, [MemoryMapTag_acc_entry_size, MemoryMapTag_acc_entry_version]),
   (.elf, [ElfSectionsTag_acc_number_of_sections, ElfSectionsTag_acc_entry_size, ElfSectionsTag_acc_shndx]),
   (.fb, [FramebufferTag_acc_address, FramebufferTag_acc_pitch, FramebufferTag_acc_width, FramebufferTag_acc_height,
          FramebufferTag_acc_bpp]),
   (.smbios, [SmbiosTag_acc_major, SmbiosTag_acc_minor]),
   (.rsdp1, [RsdpV1Tag_acc_revision, RsdpV1Tag_acc_rsdt_address]),
   (.rsdp2, [RsdpV2Tag_acc_revision, RsdpV2Tag_acc_xsdt_address, RsdpV2Tag_acc_ext_checksum]),
   (.loader, [TagHeader_fld_typ, TagHeader_fld_size]),
   (.vbe, [VBEInfoTag_acc_mode, VBEInfoTag_acc_interface_segment, VBEInfoTag_acc_interface_offset,
           VBEInfoTag_acc_interface_length])]

/-- every accessor of every kind returns the field at the offset and width the model (and, by `C04.layout_eq_spec`, the
    specification) gives it -/
theorem accessors_match : ∀ e ∈ accFacts, agreesAll e.2 (e.1.fields.map (·.2)) = true := by decide

/-- fields the model reads at fixed offsets without a plain accessor: EFI map descriptor size / version, framebuffer type
    byte, RSDP signature / OEM id / length, memory-area entries, the two headers -/
theorem direct_fields_match :
    agrees EFIMemoryMapTag_fld_desc_size (8, 4) ∧ agrees EFIMemoryMapTag_fld_desc_version (12, 4) ∧
    agrees FramebufferTag_fld_framebuffer_type (29, 1) ∧
    agrees RsdpV1Tag_fld_signature (8, 8) ∧ agrees RsdpV1Tag_fld_oem_id (17, 6) ∧
    agrees RsdpV2Tag_fld_signature (8, 8) ∧ agrees RsdpV2Tag_fld_oem_id (17, 6) ∧ agrees RsdpV2Tag_fld_length (28, 4) ∧
    agrees MemoryArea_fld_base_addr (0, 8) ∧ agrees MemoryArea_fld_length (8, 8) ∧ agrees MemoryArea_fld_typ (16, 4) ∧
    agrees MemoryArea_size (24, 8) ∧
    agrees TagHeader_fld_typ (0, 4) ∧ agrees TagHeader_fld_size (HK.tag.sizeOff, 4) ∧ agrees TagHeader_size (HK.tag.hsize, 8) ∧
    agrees BootInformationHeader_fld_total_size (HK.bi.sizeOff, 4) ∧ agrees BootInformationHeader_size (HK.bi.hsize, 8) := by decide

/-- the two ELF section-header layouts (`#[repr(C, packed)]`): the fields `elfSecAt`, `elfName` and `elfStrTabAddr` read, at
    the offsets and widths they read them (ELF32: name 0, type 4, flags 8, address 12, size 20, alignment 32, all 4 bytes wide,
    entries of 40 bytes; ELF64: name 0/4, type 4/4, flags 8/8, address 16/8, size 32/8, alignment 48/8, entries of 64 bytes);
    the accessor bodies return exactly these fields (`Fns.tbl_elf32_eq`, `Fns.tbl_elf64_eq`) -/
theorem elf_inner_layouts_match :
    agrees ElfSectionInner32_fld_name_index (0, 4) ∧ agrees ElfSectionInner32_fld_typ (4, 4) ∧
    agrees ElfSectionInner32_fld_flags (8, 4) ∧ agrees ElfSectionInner32_fld_addr (12, 4) ∧
    agrees ElfSectionInner32_fld_size (20, 4) ∧ agrees ElfSectionInner32_fld_addralign (32, 4) ∧
    agrees ElfSectionInner32_size (40, 1) ∧
    agrees ElfSectionInner64_fld_name_index (0, 4) ∧ agrees ElfSectionInner64_fld_typ (4, 4) ∧
    agrees ElfSectionInner64_fld_flags (8, 8) ∧ agrees ElfSectionInner64_fld_addr (16, 8) ∧
    agrees ElfSectionInner64_fld_size (32, 8) ∧ agrees ElfSectionInner64_fld_addralign (48, 8) ∧
    agrees ElfSectionInner64_size (64, 1) := by decide

/-- the VBE control / mode blocks: the fields in the order the model lists them (`vbeControlFields` splits the 4-byte
    signature into bytes, `vbeModeFields` splits each 2-byte colour field into mask size and position) -/
def vbeControlFacts : List (Option (Nat × Nat)) :=
  [VBEControlInfo_fld_version, VBEControlInfo_fld_oem_string_ptr, VBEControlInfo_fld_capabilities,
   VBEControlInfo_fld_mode_list_ptr, VBEControlInfo_fld_total_memory, VBEControlInfo_fld_oem_software_revision,
   VBEControlInfo_fld_oem_vendor_name_ptr, VBEControlInfo_fld_oem_product_name_ptr,
   VBEControlInfo_fld_oem_product_revision_ptr].map (shift 16)

theorem vbe_control_matches :
    agrees (shift 16 VBEControlInfo_fld_signature) (16, 4) = true ∧
    agreesAll vbeControlFacts (vbeControlFields.drop 4) = true ∧
    agrees VBEInfoTag_acc_control_info (16, 512) = true ∧ agrees VBEInfoTag_acc_mode_info (528, 256) = true := by decide

def vbeModeFacts : List (Option (Nat × Nat)) :=
  [VBEModeInfo_fld_mode_attributes, VBEModeInfo_fld_window_a_attributes, VBEModeInfo_fld_window_b_attributes,
   VBEModeInfo_fld_window_granularity, VBEModeInfo_fld_window_size, VBEModeInfo_fld_window_a_segment,
   VBEModeInfo_fld_window_b_segment, VBEModeInfo_fld_window_function_ptr, VBEModeInfo_fld_pitch,
   VBEModeInfo_fld_resolution_0, VBEModeInfo_fld_resolution_1, VBEModeInfo_fld_character_size_0,
   VBEModeInfo_fld_character_size_1, VBEModeInfo_fld_number_of_planes, VBEModeInfo_fld_bpp, VBEModeInfo_fld_number_of_banks,
   VBEModeInfo_fld_memory_model, VBEModeInfo_fld_bank_size, VBEModeInfo_fld_number_of_image_pages].map (shift 528)

/-- a 2-byte colour field = (mask size byte, position byte) -/
def colourField (g : Option (Nat × Nat)) : List (Option (Nat × Nat)) :=
  [ (do let f ← g; let s ← VBEField_fld_size; pure (f.1 + s.1 + 528, s.2)),
    (do let f ← g; let p ← VBEField_fld_position; pure (f.1 + p.1 + 528, p.2)) ]

theorem vbe_mode_matches :
    agreesAll (vbeModeFacts ++ colourField VBEModeInfo_fld_red_field ++ colourField VBEModeInfo_fld_green_field ++
               colourField VBEModeInfo_fld_blue_field ++ colourField VBEModeInfo_fld_reserved_field ++
               [VBEModeInfo_fld_direct_color_attributes, VBEModeInfo_fld_framebuffer_base_ptr,
                VBEModeInfo_fld_offscreen_memory_offset, VBEModeInfo_fld_offscreen_memory_size].map (shift 528))
      vbeModeFields = true := by decide

/-! ### header tags -/

def hkindFacts : List (HKind × Option Nat × Option Nat × Option Nat × Option (Nat × Nat)) :=
  [(.end_, EndHeaderTag_id, EndHeaderTag_base, fixedEnd EndHeaderTag_fields, EndHeaderTag_tail),
   (.inforeq, InformationRequestHeaderTag_id, InformationRequestHeaderTag_base, fixedEnd InformationRequestHeaderTag_fields,
     InformationRequestHeaderTag_tail),
   (.address, AddressHeaderTag_id, AddressHeaderTag_base, fixedEnd AddressHeaderTag_fields, AddressHeaderTag_tail),
   (.entry, EntryAddressHeaderTag_id, EntryAddressHeaderTag_base, fixedEnd EntryAddressHeaderTag_fields, EntryAddressHeaderTag_tail),
   (.console, ConsoleHeaderTag_id, ConsoleHeaderTag_base, fixedEnd ConsoleHeaderTag_fields, ConsoleHeaderTag_tail),
   (.fb, FramebufferHeaderTag_id, FramebufferHeaderTag_base, fixedEnd FramebufferHeaderTag_fields, FramebufferHeaderTag_tail),
   (.modalign, ModuleAlignHeaderTag_id, ModuleAlignHeaderTag_base, fixedEnd ModuleAlignHeaderTag_fields, ModuleAlignHeaderTag_tail),
   (.efibs, EfiBootServiceHeaderTag_id, EfiBootServiceHeaderTag_base, fixedEnd EfiBootServiceHeaderTag_fields,
     EfiBootServiceHeaderTag_tail),
   (.efi32, EntryEfi32HeaderTag_id, EntryEfi32HeaderTag_base, fixedEnd EntryEfi32HeaderTag_fields, EntryEfi32HeaderTag_tail),
   (.efi64, EntryEfi64HeaderTag_id, EntryEfi64HeaderTag_base, fixedEnd EntryEfi64HeaderTag_fields, EntryEfi64HeaderTag_tail),
   (.reloc, RelocatableHeaderTag_id, RelocatableHeaderTag_base, fixedEnd RelocatableHeaderTag_fields, RelocatableHeaderTag_tail)]

theorem hkindFacts_complete : ∀ k : HKind, k ∈ hkindFacts.map (·.1) := by intro k; cases k <;> decide

theorem hids_match : ∀ e ∈ hkindFacts, agrees e.2.1 e.1.typ = true := by decide

theorem hbase_sizes_match : ∀ e ∈ hkindFacts, agrees e.2.2.1 e.1.desc.baseSize = true := by decide

theorem hfixed_parts_match : ∀ e ∈ hkindFacts,
    agrees e.2.2.2.1 e.1.desc.fixed = true ∧ tailAgrees e.2.2.2.2 e.1.desc.fixed e.1.desc.elem = true := by decide

def haccFacts : List (HKind × List (Option (Nat × Nat))) :=
  [(.address, [AddressHeaderTag_acc_header_addr, AddressHeaderTag_acc_load_addr, AddressHeaderTag_acc_load_end_addr,
               AddressHeaderTag_acc_bss_end_addr]),
   (.entry, [EntryAddressHeaderTag_acc_entry_addr]),
   (.efi32, [EntryEfi32HeaderTag_acc_entry_addr]),
   (.efi64, [EntryEfi64HeaderTag_acc_entry_addr]),
   (.console, [ConsoleHeaderTag_acc_console_flags]),
   (.fb, [FramebufferHeaderTag_acc_width, FramebufferHeaderTag_acc_height, FramebufferHeaderTag_acc_depth]),
   (.reloc, [RelocatableHeaderTag_acc_min_addr, RelocatableHeaderTag_acc_max_addr, RelocatableHeaderTag_acc_align,
             RelocatableHeaderTag_acc_preference])]

theorem haccessors_match : ∀ e ∈ haccFacts, agreesAll e.2 (e.1.fields.map (·.2)) = true := by decide

theorem header_fields_match :
    agrees HeaderTagHeader_fld_typ (0, 2) ∧ agrees HeaderTagHeader_fld_flags (2, 2) ∧
    agrees HeaderTagHeader_fld_size (HK.ht.sizeOff, 4) ∧ agrees (HeaderTagHeader_size.map (·.1)) HK.ht.hsize ∧
    agrees Multiboot2BasicHeader_fld_header_magic (0, 4) ∧ agrees Multiboot2BasicHeader_fld_arch (4, 4) ∧
    agrees Multiboot2BasicHeader_fld_length (HK.hb.sizeOff, 4) ∧ agrees Multiboot2BasicHeader_fld_checksum (12, 4) ∧
    agrees (Multiboot2BasicHeader_size.map (·.1)) HK.hb.hsize := by decide

/-- how many of the requested facts the translator derived from the current source (non-vacuity of the tie) -/
def derivedCount : Nat :=
  (kindFacts.map fun e => e.2.1.isSome.toNat + e.2.2.1.isSome.toNat + e.2.2.2.1.isSome.toNat).sum +
  (accFacts.map fun e => (e.2.map fun g => g.isSome.toNat).sum).sum +
  (hkindFacts.map fun e => e.2.1.isSome.toNat + e.2.2.1.isSome.toNat + e.2.2.2.1.isSome.toNat).sum +
  (haccFacts.map fun e => (e.2.map fun g => g.isSome.toNat).sum).sum +
  ((vbeControlFacts ++ vbeModeFacts).map fun g => g.isSome.toNat).sum

end Mb2.Layout
