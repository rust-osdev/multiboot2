/-
  C17 — String tags round-trip text and apply the NUL / UTF-8 rules within the tag size.
-/
import Mb2.Tags
import Mb2.Build
import Mb2.Lemmas.Build
namespace Mb2.C17
open Mb2

theorem firstNul_of_findIdx {bytes : Bytes} {i : Nat} (h : bytes.findIdx? (· == 0) = some i) :
    i < bytes.length ∧ bytes.getD i 1 = 0 ∧ ∀ j, j < i → bytes.getD j 0 ≠ 0 := by
  obtain ⟨hi, hz, hb⟩ := List.findIdx?_eq_some_iff_getElem.mp h
  exact ⟨hi, (List.getElem_eq_getD 1).symm.trans (eq_of_beq hz), fun j hj =>
    List.getElem_eq_getD (h := Nat.lt_trans hj hi) 0 ▸ fun h => hb j hj (beq_iff_eq.mpr h)⟩

theorem noNul_of_findIdx {bytes : Bytes} (h : bytes.findIdx? (· == 0) = none) :
    ∀ j, j < bytes.length → bytes.getD j 0 ≠ 0 := fun _ hj =>
  List.getElem_eq_getD (h := hj) 0 ▸ ne_of_beq_false (List.findIdx?_eq_none_iff.mp h _ (List.getElem_mem hj))

/-- parsing characterisation, for ANY content bytes (= the bytes `[fixed, size)` of the tag): the text is the bytes
    before the first NUL when they are valid UTF-8; no NUL → MissingNul; invalid → Utf8. Never a panic, and the text
    (plus its terminator) lies inside the given bytes. -/
theorem parse_spec (bytes : Bytes) :
    (∀ i, parseStr bytes = .ok i →
        i < bytes.length ∧ bytes.getD i 1 = 0 ∧ (∀ j, j < i → bytes.getD j 0 ≠ 0) ∧ validUtf8 (bytes.take i) = true) ∧
    (parseStr bytes = .error .missingNul ↔ ∀ j, j < bytes.length → bytes.getD j 0 ≠ 0) ∧
    (parseStr bytes = .error .utf8 → ∃ i, i < bytes.length ∧ bytes.getD i 1 = 0 ∧ (∀ j, j < i → bytes.getD j 0 ≠ 0) ∧
        validUtf8 (bytes.take i) = false) := by
  unfold parseStr
  cases hf : bytes.findIdx? (· == 0) with
  | none => exact ⟨nofun, ⟨fun _ => noNul_of_findIdx hf, fun _ => rfl⟩, nofun⟩
  | some i =>
    obtain ⟨hi, hz, hb⟩ := firstNul_of_findIdx hf
    -- the two readings of byte `i` differ only in the default, which is not used
    have hno : ¬ ∀ j, j < bytes.length → bytes.getD j 0 ≠ 0 := fun h =>
      h i hi ((List.getElem_eq_getD (h := hi) 0).symm.trans ((List.getElem_eq_getD 1).trans hz))
    simp only
    by_cases hv : validUtf8 (bytes.take i) = true
    · rw [if_pos hv]
      exact ⟨fun k hk => by cases hk; exact ⟨hi, hz, hb, hv⟩, ⟨nofun, fun h => absurd h hno⟩, nofun⟩
    · rw [if_neg hv]
      exact ⟨nofun, ⟨nofun, fun h => absurd h hno⟩, fun _ => ⟨i, hi, hz, hb, Bool.eq_false_iff.mpr hv⟩⟩

/-- first NUL of `s ++ 0 :: rest` when `s` has none -/
theorem findIdx_append_nul (s rest : Bytes) (hs : ∀ b ∈ s, b ≠ 0) :
    (s ++ (0 : UInt8) :: rest).findIdx? (· == 0) = some s.length := by
  rw [List.findIdx?_append, List.findIdx?_eq_none_iff.mpr fun b hb => beq_false_of_ne (hs b hb), List.findIdx?_cons,
    if_pos (beq_self_eq_true 0)]
  exact congrArg some (Nat.zero_add _)

/-- a Lean `String` is valid UTF-8 by construction, like Rust's `&str` -/
theorem validUtf8_string (s : String) : validUtf8 s.toUTF8.data.toList = true :=
  ByteArray.validateUTF8_eq_true_iff.mpr s.isValidUTF8

/-- Round trip: for EVERY string `s` (Lean `String` = valid UTF-8 by construction, like Rust's `&str`) without a NUL byte,
    the content the three constructors store (`s` followed by exactly one NUL, followed by arbitrary padding / next-tag
    bytes `rest`) parses back to exactly the bytes of `s`. -/
theorem roundtrip (s : String) (rest : Bytes) (hs : ∀ b ∈ s.toUTF8.data.toList, b ≠ 0) :
    parseStr (strContent s.toUTF8.data.toList ++ rest) = .ok s.toUTF8.data.toList.length ∧
    (strContent s.toUTF8.data.toList ++ rest).take s.toUTF8.data.toList.length = s.toUTF8.data.toList ∧
    strContent s.toUTF8.data.toList = s.toUTF8.data.toList ++ [0] := by
  have ht : (s.toUTF8.data.toList ++ 0 :: rest).take s.toUTF8.data.toList.length = s.toUTF8.data.toList :=
    List.take_left' rfl
  rw [strContent_of_no_nul hs, List.append_assoc, List.singleton_append]
  refine ⟨?_, ht, rfl⟩
  unfold parseStr
  rw [findIdx_append_nul _ _ hs]
  simp only
  rw [ht, if_pos (validUtf8_string s)]

/-! Non-vacuity -/
example : parseStr [104, 105, 0, 122] = .ok 2 := by decide
example : parseStr [104, 105] = .error .missingNul := by decide

end Mb2.C17
