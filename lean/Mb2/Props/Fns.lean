/-
  Umbrella import of the function-body tie (SOURCE = MODEL), one module per function group so that a change of one function
  breaks the obligations of the properties that depend on it and of no others.
-/
import Mb2.Props.FnsBase
import Mb2.Props.FnsAlign
import Mb2.Props.FnsBytesRef
import Mb2.Props.FnsTagHdr
import Mb2.Props.FnsHtHdr
import Mb2.Props.FnsBiHdr
import Mb2.Props.FnsHbHdr
import Mb2.Props.FnsMbiLoad
import Mb2.Props.FnsHdrLoad
import Mb2.Props.FnsDstMbi
import Mb2.Props.FnsDstHdr
import Mb2.Props.FnsTagType
import Mb2.Props.FnsMemType
import Mb2.Props.FnsElfType
import Mb2.Props.FnsFbType
import Mb2.Props.FnsIter
import Mb2.Props.FnsMisc
import Mb2.Props.FnsEfi
import Mb2.Props.FnsElfOpen
import Mb2.Props.FnsCtor
import Mb2.Props.FnsFb
import Mb2.Props.FnsElfIter
import Mb2.Props.FnsGetters
import Mb2.Props.FnsFind
import Mb2.Props.FnsCast
import Mb2.Props.FnsBoxed
import Mb2.Props.FnsBoxedCtor
import Mb2.Props.FnsLinked
import Mb2.Props.FnsTblBase
import Mb2.Props.FnsTblMbi
import Mb2.Props.FnsTblHdr
import Mb2.Props.FnsTblElf
import Mb2.Props.FnsTblEfi
import Mb2.Props.FnsTblTags
import Mb2.Props.FnsTblIds
import Mb2.Props.FnsTblFixed
