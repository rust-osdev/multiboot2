/-
  C20 — Type-identifier conversions are lossless and consistent for all 2^32 values.
-/
import Mb2.Ids
import Mb2.Lemmas.Ids
import Mb2.Lemmas.Tags
import Mb2.Tags
-- registered under C20 in `Props/INDEX.json`: the check audits them through this module; nothing below uses them
import Mb2.Props.FnsTblFixed
import Mb2.Props.FnsFb
import Mb2.Props.FnsTblIds
import Mb2.Props.FnsTblTags
import Mb2.Props.FnsTagType
import Mb2.Props.FnsMemType
import Mb2.Props.FnsElfType
import Mb2.Props.FnsFbType
namespace Mb2.C20
open Mb2

/-- converting any 32-bit value to the symbolic tag type and back returns the same value -/
theorem tagType_roundtrip (v : UInt32) : (TagType.ofU32 v).toU32 = v :=
  TagType.ofU32_cases (P := fun v t => t.toU32 = v) v (named := by decide) (custom := fun _ => rfl)

/-- the specified numbers 0..21 map to their named variants (variant index = the number) … -/
theorem tagType_named (v : UInt32) (h : v ≤ 21) : (TagType.ofU32 v).index = v :=
  TagType.ofU32_cases (P := fun v t => v ≤ 21 → t.index = v) v (named := by decide)
    (custom := fun hge hle => absurd (UInt32.le_iff_toNat_le.mp hle) (by simp only [UInt32.reduceToNat]; omega)) h

/-- … and every other value maps to the custom variant carrying it -/
theorem tagType_custom (v : UInt32) (h : 21 < v) : TagType.ofU32 v = .custom v :=
  TagType.ofU32_of_ge (UInt32.lt_iff_toNat_lt.mp h)

/-- conversions through the binary-compatible id wrapper commute with the direct ones -/
theorem id_commutes (v : UInt32) :
    (TagTypeId.ofU32 v).toTagType = TagType.ofU32 v ∧
    (TagType.ofU32 v).toId = TagTypeId.ofU32 v ∧
    (TagTypeId.ofU32 v).toU32 = v ∧
    (TagTypeId.ofU32 v).toTagType.toId.toU32 = v := by
  refine ⟨rfl, ?_, rfl, ?_⟩
  · simp [TagType.toId, tagType_roundtrip]
  · simp [TagType.toId, TagTypeId.toTagType, TagTypeId.toU32, TagTypeId.ofU32, tagType_roundtrip]

/-- all six equality impls agree with numeric equality -/
theorem equalities_numeric (t : TagType) (i : TagTypeId) (v : UInt32) :
    (eqTypeId t i = true ↔ t.toU32 = i.val) ∧ (eqIdType i t = true ↔ t.toU32 = i.val) ∧
    (eqIdU32 i v = true ↔ i.val = v) ∧ (eqU32Id v i = true ↔ i.val = v) ∧
    (eqTypeU32 t v = true ↔ t.toU32 = v) ∧ (eqU32Type v t = true ↔ t.toU32 = v) := by
  simp [eqTypeId, eqIdType, eqIdU32, eqU32Id, eqTypeU32, eqU32Type, TagTypeId.toU32]

/-- in particular: two raw numbers denote equal symbolic types iff they are equal -/
theorem tagType_injective (a b : UInt32) : TagType.ofU32 a = TagType.ofU32 b ↔ a = b := by
  constructor
  · intro h; have := congrArg TagType.toU32 h; simpa [tagType_roundtrip] using this
  · intro h; rw [h]

theorem memType_roundtrip (v : UInt32) : (MemoryAreaType.ofU32 v).toU32 = v :=
  MemoryAreaType.ofU32_cases (P := fun v t => t.toU32 = v) v (named := by decide) (custom := fun _ => rfl)

theorem memType_custom (v : UInt32) (h : v = 0 ∨ 5 < v) : MemoryAreaType.ofU32 v = .custom v := by
  rcases h with rfl | h
  · rfl
  · exact MemoryAreaType.ofU32_of_ge (UInt32.lt_iff_toNat_lt.mp h)

theorem memType_equalities (t : MemoryAreaType) (i : UInt32) :
    (eqMatIdType i t = true ↔ i = t.toU32) ∧ (eqMatTypeId t i = true ↔ i = t.toU32) := by
  simp [eqMatIdType, eqMatTypeId]

/-- ELF section type classification is total and matches the documented values and ranges -/
theorem elf_classification (n : Nat) :
    (n ≤ 11 → (ElfSectionType.classify n).discr = n) ∧
    ((0x60000000 ≤ n ∧ n ≤ 0x6FFFFFFF) → ElfSectionType.classify n = .environmentSpecific) ∧
    ((0x70000000 ≤ n ∧ n ≤ 0x7FFFFFFF) → ElfSectionType.classify n = .processorSpecific) ∧
    ((11 < n ∧ n < 0x60000000) ∨ 0x7FFFFFFF < n → ElfSectionType.classify n = .unused) := by
  refine ⟨fun h => (by decide : ∀ n < 12, (ElfSectionType.classify n).discr = n) n (Nat.lt_succ_of_le h),
    fun henv => ?_, fun hproc => ?_, fun hrest => ?_⟩
  · rw [ElfSectionType.classify_of_gt (by omega), if_pos henv]
  · have henv : ¬ (0x60000000 ≤ n ∧ n ≤ 0x6FFFFFFF) := by omega
    rw [ElfSectionType.classify_of_gt (by omega), if_neg henv, if_pos hproc]
  · have henv : ¬ (0x60000000 ≤ n ∧ n ≤ 0x6FFFFFFF) := by omega
    have hproc : ¬ (0x70000000 ≤ n ∧ n ≤ 0x7FFFFFFF) := by omega
    rw [ElfSectionType.classify_of_gt (by omega), if_neg henv, if_neg hproc]

/-- a section is skipped by the iterator (classified `unused`) exactly when its raw type is not one of the in-use types -/
theorem elf_in_use_iff (n : Nat) :
    ElfSectionType.classify n ≠ .unused ↔
      (1 ≤ n ∧ n ≤ 11) ∨ (0x60000000 ≤ n ∧ n ≤ 0x6FFFFFFF) ∨ (0x70000000 ≤ n ∧ n ≤ 0x7FFFFFFF) := by
  by_cases h : n ≤ 11
  · rw [(by decide : ∀ n < 12, (ElfSectionType.classify n ≠ .unused ↔ 1 ≤ n)) n (by omega)]; omega
  · rw [ElfSectionType.classify_of_gt (by omega)]
    by_cases h1 : 0x60000000 ≤ n ∧ n ≤ 0x6FFFFFFF
    · rw [if_pos h1]; exact ⟨fun _ => .inr (.inl h1), fun _ => nofun⟩
    by_cases h2 : 0x70000000 ≤ n ∧ n ≤ 0x7FFFFFFF
    · rw [if_neg h1, if_pos h2]; exact ⟨fun _ => .inr (.inr h2), fun _ => nofun⟩
    · rw [if_neg h1, if_neg h2]; exact ⟨fun c => absurd rfl c, by omega⟩

/-- all 256 framebuffer type bytes: 0, 1, 2 are known, everything else is reported as unknown -/
theorem fbType_total (b : Nat) : fbTypeOfByte b = if b ≤ 2 then some b else none := fbTypeOfByte_eq b

/-- ... and the whole-tag classification `FramebufferTag::buffer_type` (the model's `fbBufferType`) reports every type byte
    above 2 as unknown, carrying that byte - WHATEVER the tag's size or colour information; type 2 is text -/
theorem buffer_type_unknown (T : Bytes) (v : View) (h : 30 ≤ T.length) (hb : 2 < u8At T 29) :
    fbBufferType T v = .ok (.error (u8At T 29)) :=
  (fbBufferType_eq T v h).trans (if_pos hb)

theorem buffer_type_text (T : Bytes) (v : View) (h : 30 ≤ T.length) (hb : u8At T 29 = 2) :
    fbBufferType T v = .ok (.ok .text) := by
  rw [fbBufferType_eq T v h, hb]; rfl

example : fbBufferType ((List.replicate 29 0 : Bytes) ++ [7, 0, 0]) ⟨0, 32, 32, 0⟩ = .ok (.error 7) := by decide

theorem magics : MBI_MAGIC = 0x36D76289 ∧ HEADER_MAGIC = 0xE85250D6 := ⟨rfl, rfl⟩

end Mb2.C20
