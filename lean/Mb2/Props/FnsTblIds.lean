/-
  The impl blocks (as tables, see `FnsTblLookup.lean`) of the identifier wrappers: `TagTypeId` with its conversions and the
  six `PartialEq` impls of multiboot2/src/tag_type.rs, `MemoryAreaTypeId` with its `u32` conversions and two `PartialEq` impls
  (memory_map.rs).
-/

import Mb2.Props.FnsTblLookup
open Mb2 Mb2.Rir

namespace Mb2.Fns


-- BEGIN TABLES (generated once by a script from the unchanged tree, then REVIEWED row by row)
theorem tbl_tag_type_id_eq : Gen.Fns.tbl_tag_type_id = some [
  ("new->Self", "ir", some (.c1 "TagTypeId::Self" (.var 0)), ["val"], [])] := rfl

theorem tbl_id_from_u32_eq : Gen.Fns.tbl_id_from_u32 = some [
  ("from->Self", "ir", some (.var 0), ["core::mem::transmute(value)"], [])] := rfl

theorem tbl_u32_from_id_eq : Gen.Fns.tbl_u32_from_id = some [
  ("from->Self", "ir", some (.var 0), ["value.0"], [])] := rfl

theorem tbl_type_from_id_eq : Gen.Fns.tbl_type_from_id = some [
  ("from->Self", "ir", some (.var 0), ["Self::from(value)"], ["let value=u32::from(value)"])] := rfl

theorem tbl_id_from_type_eq : Gen.Fns.tbl_id_from_type = some [
  ("from->Self", "ir", some (.var 0), ["Self::from(value)"], ["let value=u32::from(value)"])] := rfl

theorem tbl_type_eq_id_eq : Gen.Fns.tbl_type_eq_id = some [
  ("eq->bool", "ir", some (.bin .eq (.var 0) (.var 1)), ["u32::from(*self)", "u32::from(*other)"], ["let this=u32::from(*self)", "let that=u32::from(*other)"])] := rfl

theorem tbl_id_eq_type_eq : Gen.Fns.tbl_id_eq_type = some [
  ("eq->bool", "ir", some (.var 0), ["other.eq(self)"], [])] := rfl

theorem tbl_id_eq_u32_eq : Gen.Fns.tbl_id_eq_u32 = some [
  ("eq->bool", "ir", some (.bin .eq (.var 0) (.var 1)), ["u32::from(*self)", "other"], ["let this=u32::from(*self)"])] := rfl

theorem tbl_u32_eq_id_eq : Gen.Fns.tbl_u32_eq_id = some [
  ("eq->bool", "ir", some (.var 0), ["other.eq(self)"], [])] := rfl

theorem tbl_type_eq_u32_eq : Gen.Fns.tbl_type_eq_u32 = some [
  ("eq->bool", "ir", some (.bin .eq (.var 0) (.var 1)), ["u32::from(*self)", "other"], ["let this=u32::from(*self)"])] := rfl

theorem tbl_u32_eq_type_eq : Gen.Fns.tbl_u32_eq_type = some [
  ("eq->bool", "ir", some (.var 0), ["other.eq(self)"], [])] := rfl

theorem tbl_mid_from_u32_eq : Gen.Fns.tbl_mid_from_u32 = some [
  ("from->Self", "ir", some (.c1 "MemoryAreaTypeId::Self" (.var 0)), ["value"], [])] := rfl

theorem tbl_u32_from_mid_eq : Gen.Fns.tbl_u32_from_mid = some [
  ("from->Self", "ir", some (.var 0), ["value.0"], [])] := rfl

theorem tbl_mid_eq_mtype_eq : Gen.Fns.tbl_mid_eq_mtype = some [
  ("eq->bool", "ir", some (.var 0), ["self.0.eq(&val)"], ["let val=(*other).into()", "let val=(*other).into().0"])] := rfl

theorem tbl_mtype_eq_mid_eq : Gen.Fns.tbl_mtype_eq_mid = some [
  ("eq->bool", "ir", some (.var 0), ["other.0.eq(&val)"], ["let val=(*self).into()", "let val=(*self).into().0"])] := rfl

-- END TABLES


/-! ### what the pinned rows mean -/

/-- `TagType == TagTypeId` compares the two 32-bit numbers (`u32::from` of both sides: `u32_from_tag_type_eq`, and the
    transparent wrapper's `.0`); the mirrored impl delegates to it -/
theorem tag_type_eq_id_eq (p : Profile) (a b : Nat) :
    evalO p [.int .u32 a, .int .u32 b] (tblRow Gen.Fns.tbl_type_eq_id "eq->bool") = some (.ok (.bool (decide (a = b)))) ∧
    tblVars Gen.Fns.tbl_type_eq_id "eq->bool" = ["u32::from(*self)", "u32::from(*other)"] ∧
    tblVars Gen.Fns.tbl_id_eq_type "eq->bool" = ["other.eq(self)"] := by
  rw [tbl_type_eq_id_eq, tbl_id_eq_type_eq, tblRow_head, tblVars_head, tblVars_head]
  exact ⟨rfl, rfl, rfl⟩

/-- `TagTypeId <-> TagType` go through the number: `Self::from(u32::from(value))` in both directions; `TagTypeId <-> u32`
    is the transparent wrapper (`transmute` / `.0`) -/
theorem tag_type_id_conversions_via_u32 :
    Gen.Fns.tbl_type_from_id = some [("from->Self", "ir", some (.var 0), ["Self::from(value)"], ["let value=u32::from(value)"])] ∧
    Gen.Fns.tbl_id_from_type = some [("from->Self", "ir", some (.var 0), ["Self::from(value)"], ["let value=u32::from(value)"])] ∧
    tblVars Gen.Fns.tbl_id_from_u32 "from->Self" = ["core::mem::transmute(value)"] ∧
    tblVars Gen.Fns.tbl_u32_from_id "from->Self" = ["value.0"] := by
  rw [tbl_id_from_u32_eq, tbl_u32_from_id_eq, tblVars_head, tblVars_head]
  exact ⟨tbl_type_from_id_eq, tbl_id_from_type_eq, rfl, rfl⟩

end Mb2.Fns
