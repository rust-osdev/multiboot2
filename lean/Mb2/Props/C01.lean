/-
  C01 — Boot-information parsing never reads outside the loaded structure.
  `C01Parts` holds the per-entry-point theorems, `C01Sweep` the end-to-end theorem `sweep_no_fault` about the very function
  the correspondence check ties to the real code (`Sweep.sweep`).
-/
import Mb2.Props.C01Parts
import Mb2.Props.C01Sweep
-- registered under C01 in `Props/INDEX.json`: the check audits them through this module; nothing below uses them
import Mb2.Props.FnsTblElf
import Mb2.Props.FnsTblMbi
import Mb2.Props.Layout
import Mb2.Props.FnsGetters
import Mb2.Props.FnsCast
import Mb2.Props.FnsFb
import Mb2.Props.FnsElfIter
import Mb2.Props.FnsIter
import Mb2.Props.FnsDstMbi
import Mb2.Props.FnsEfi
import Mb2.Props.FnsElfOpen
import Mb2.Props.FnsMisc
