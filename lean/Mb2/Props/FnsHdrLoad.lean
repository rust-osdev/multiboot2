/-
  SOURCE = MODEL for `Multiboot2Header::load` (multiboot2-header/src/header.rs). The inputs are the outcomes of `NonNull::new`
  and `ref_from_ptr`, the magic word and the outcome of `verify_checksum`: the theorem is the order of the decisions.
-/

import Mb2.Props.FnsBase
open Mb2 Mb2.Rir

namespace Mb2.Fns

theorem hdr_load_eq (p : Profile) (ptr inner : V) (nn : Bool) (r : Ex MemErr Unit) (magic : Nat) (ckOk : Bool) :
    evalO p [if nn then .c1 "Some" ptr else .c0 "None",
             (match r with | .ok () => .c1 "Ok" inner | .error e => .c1 "Err" (encMemErr e)),
             .int .u32 magic, .bool ckOk] Gen.Fns.hdr_load =
      some (.ok (if !nn then .c1 "Err" (.c1 "LoadError::Memory" (encMemErr .null))
                 else match r with
                   | .error e => .c1 "Err" (.c1 "LoadError::Memory" (encMemErr e))
                   | .ok () => if magic ≠ HMAGIC then .c1 "Err" (.c0 "LoadError::MagicNotFound")
                               else if ckOk then .c1 "Ok" (.c1 "Multiboot2Header::Self" inner)
                               else .c1 "Err" (.c0 "LoadError::ChecksumMismatch"))) := by
  unfold HMAGIC
  cases nn
  · simp only [Gen.Fns.hdr_load, rir, encMemErr]
  · cases r <;> simp only [Gen.Fns.hdr_load, rir]

end Mb2.Fns
