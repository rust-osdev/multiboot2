/-
  C11 — Header accessors and typed getters decode the specified fields.
-/
import Mb2.HTags
import Mb2.Spec
import Mb2.Lemmas.Tags
import Mb2.Lemmas.View
import Mb2.Props.C03
import Mb2.Props.C10
namespace Mb2.C11
open Mb2

/-- specification offsets of the header tags (Multiboot2 specification §3.1.x): (name, offset, width) by type number -/
def specFields : Nat → List (String × Nat × Nat)
  | 2 => [("header_addr", 8, 4), ("load_addr", 12, 4), ("load_end_addr", 16, 4), ("bss_end_addr", 20, 4)]
  | 3 => [("entry_addr", 8, 4)]
  | 4 => [("console_flags", 8, 4)]
  | 5 => [("width", 8, 4), ("height", 12, 4), ("depth", 16, 4)]
  | 8 => [("entry_addr", 8, 4)]
  | 9 => [("entry_addr", 8, 4)]
  | 10 => [("min_addr", 8, 4), ("max_addr", 12, 4), ("align", 16, 4), ("preference", 20, 4)]
  | _ => []

theorem layout_eq_spec : ∀ k : HKind, k.fields = specFields k.typ := by
  intro k; cases k <;> rfl

theorem fields_inside : ∀ k : HKind, ∀ f ∈ k.fields, f.2.1 + f.2.2 ≤ k.desc.fixed ∧ (f.2.2 = 1 ∨ f.2.2 = 2 ∨ f.2.2 = 4 ∨ f.2.2 = 8) := by
  intro k; cases k <;> decide

/-- for a valid header the four accessors return the stored magic, architecture, length and checksum -/
theorem header_accessors (p : Profile) (mem : Bytes) (hl : HLoaded)
    (hmem : mem.length ≥ 16 ∧ mem.length ≥ le32 mem 8) (h : hload p false mem = .ok (.ok hl)) :
    hl.magic = le32 mem 0 ∧ hl.arch = le32 mem 4 ∧ hl.length = le32 mem 8 ∧ hl.checksum = le32 mem 12 ∧
    hl.magic = HMAGIC ∧ 16 ≤ hl.length ∧ hl.length % 8 = 0 := by
  obtain ⟨rfl, h16, h8, hm, -, -⟩ := (C10.hload_eq_ok_iff p mem hmem hl).mp h
  exact ⟨rfl, rfl, rfl, rfl, hm, h16, h8⟩

/-- the header-tag iterator reproduces the specification walk over the tag area (from offset 16 to the declared length) -/
theorem tag_iter_is_spec_walk (p : Profile) (area : Bytes) (hb : area.length % 8 = 0) (hlen : area.length < 2^62) :
    tagsOf p .ht area = Spec.tagsOf .ht area :=
  C03.tags_eq_spec p .ht C03.IterKind.ht area hb hlen

/-- each typed getter returns the FIRST tag of its type in walk order; when it returns nothing, the walk is complete and has
    none -/
theorem hgetTag_first (p : Profile) (area : Bytes) (k : HKind) :
    (∀ v, hgetTag p area k = .ok (some v) →
        ∃ pre it post, (tagsOf p .ht area).1 = pre ++ it :: post ∧ it.typ = k.typ ∧ it.off = v.off ∧ it.size = v.size ∧
          (∀ x ∈ pre, x.typ ≠ k.typ) ∧ castTo p .ht k.desc it.size it.pl = .ok (v.sov, v.n)) ∧
    (hgetTag p area k = .ok none → (tagsOf p .ht area).2 = .done ∧ ∀ x ∈ (tagsOf p .ht area).1, x.typ ≠ k.typ) :=
  firstCast_first

/-- every field accessor of every header-tag kind returns the little-endian value at the specified offset -/
theorem field_decodes (area : Bytes) (k : HKind) (v : View) (hfit : v.off + v.sov ≤ area.length)
    (hsov : k.desc.fixed ≤ v.sov) :
    ∀ f ∈ specFields k.typ, rdW (v.bytes area) f.2.1 f.2.2 = .ok (leW area (v.off + f.2.1) f.2.2) :=
  layout_eq_spec k ▸ rdW_fields area v.off v.sov _ _ hfit hsov (fields_inside k)

/-- the information-request list has exactly `(size − 8)/4` words; a size that leaves a remainder is a controlled panic -/
theorem info_request_count (p : Profile) (size : Nat) (hs : 8 ≤ size) :
    castTo p .ht infoReqDesc size (size - 8) =
      (if (size - 8) % 4 ≠ 0 then .panic else .ok (roundUp8 size, (size - 8) / 4)) := by
  rw [castTo_of_base (k := .ht) (t := infoReqDesc) (Nat.le_refl 8), dynSizeOfVal_sub8 .ht rfl size hs]
  show (usub p W64 size 8 >>= fun d => if d % 4 ≠ 0 then Res.panic else .ok (d / 4)) >>= _ = _
  rw [usub_ok p _ _ _ hs, Res.bind_ok]
  split
  · rfl
  · -- with a whole number of words the type is the truthful `dstDesc 8 4`
    rw [Res.bind_ok, show infoReqDesc.sizeOfVal = (dstDesc 8 4).sizeOfVal from rfl,
      dstDesc_sizeOfVal hs (Decidable.not_not.mp ‹_›), if_neg (Decidable.not_not.mpr rfl)]

/-- a successful cast of an information-request tag: the `n` request words fill the tag exactly -/
theorem info_request_words {p : Profile} {size sov n : Nat} (hs : 8 ≤ size)
    (h : castTo p .ht infoReqDesc size (size - 8) = .ok (sov, n)) : 8 + n * 4 = size := by
  rw [info_request_count p size hs, Res.ite_panic_eq_ok, Prod.mk.injEq] at h
  obtain ⟨c, -, rfl⟩ := h
  rw [Nat.div_mul_cancel (Nat.dvd_of_mod_eq_zero (Decidable.not_not.mp c))]
  omega

/-! Non-vacuity -/
example : hgetTag .dev ([3,0,1,0, 12,0,0,0, 0x78,0x56,0x34,0x12, 0,0,0,0,  0,0,0,0, 8,0,0,0]) .entry = .ok (some ⟨0, 12, 16, 0⟩) := by decide

end Mb2.C11
