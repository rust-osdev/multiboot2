/-
  C12 — Building then loading a header preserves its tags and is spec-well-formed.
  The walk, the builder-state invariant and the final `new_boxed` are those of C06, at header kinds `ht` / `hb` with the
  header builder's slot table; particular to the header are the constructors, the checksum and the loader.
-/
import Mb2.Build
import Mb2.Props.C06
import Mb2.Props.C10
import Mb2.HTags
-- registered under C12 in `Props/INDEX.json`: the check audits them through this module; nothing below uses them
import Mb2.Props.FnsTblHdr
import Mb2.Props.FnsBoxedCtor
import Mb2.Props.FnsBoxed
import Mb2.Props.FnsCast
import Mb2.Props.Builders
namespace Mb2.C12
open Mb2

/-- the header-tag end image: type 0, flags 0, size 8 -/
def endHImg : Bytes := hdrHdr 0 0 8

/-- the tag area `tag₁ ++ … ++ tagₙ ++ end tag` of a built header walks (the specification's walk at the header-tag kind) to exactly the
    supplied tags followed by the terminating end tag -/
theorem built_header_area_walk (imgs : List Bytes) (hwf : ∀ b ∈ imgs, C06.WFImg b) :
    Spec.tagsOf .ht (imgs.flatten ++ endHImg) =
      (C06.itemsOf .ht imgs 0 ++ [⟨imgs.flatten.length, 0, 8, 0⟩], .done) :=
  C06.built_area_walk .ht endHImg rfl rfl imgs hwf

/-- `new_boxed` patches the basic header through `set_size`: the length becomes the byte count and the checksum is
    recomputed, so that magic + architecture + length + checksum ≡ 0 (mod 2^32) for ANY length and architecture -/
theorem set_size_keeps_checksum_valid (hdr : Bytes) (total : Nat) (ht : total < 4294967296) (hl : 8 ≤ hdr.length) :
    le32 (setSize .hb hdr total) 8 = total ∧
    (le32 hdr 0 + le32 hdr 4 + le32 (setSize .hb hdr total) 8 + le32 (setSize .hb hdr total) 12) % 4294967296 = 0 ∧
    (setSize .hb hdr total).take 8 = hdr.take 8 := by
  have hlen8 : (hdr.take 8).length = 8 := by rw [List.length_take]; omega
  have law := C10.checksum_law (le32 hdr 0) (le32 hdr 4) total (le32_lt hdr 0) (le32_lt hdr 4) ht
  have h8 : le32 (setSize .hb hdr total) 8 = total := by
    rw [setSize_hb, le32_append_right_of _ _ 0 hlen8.symm, le32_enc32, Nat.mod_eq_of_lt ht]
  have h12 : le32 (setSize .hb hdr total) 12 = calcChecksum (le32 hdr 0) (le32 hdr 4) total := by
    rw [setSize_hb, le32_append_right_of _ _ 4 (by omega), le32_skip_enc32, ← List.append_nil (enc32 _), le32_enc32,
      Nat.mod_eq_of_lt ht, Nat.mod_eq_of_lt law.2]
  refine ⟨h8, ?_, ?_⟩
  · rw [h8, h12]; omega
  · rw [setSize_hb]; exact List.take_left' hlen8

/-! Non-vacuity -/
example : Spec.tagsOf .ht ([3,0,1,0, 12,0,0,0, 0x78,0x56,0x34,0x12, 0,0,0,0] ++ endHImg) =
    ([⟨0, 3, 12, 4⟩, ⟨16, 0, 8, 0⟩], .done) := by decide

/-- C12, end to end on the model: handing ANY list of well-formed header-tag images (plus the end tag) to the final
    `new_boxed` of the header builder yields - without panic, for either architecture - a structure whose length word is
    its exact byte length, which is a multiple of 8 long, allocated 8-aligned with exactly that size, whose four header
    words sum to 0 (mod 2^32), which LOADS successfully (`Multiboot2Header::load` model) and whose tag area is the images
    back to back followed by the end tag (so that, by `built_header_area_walk`, the walk is exactly the supplied tags
    followed by one end tag). -/
theorem build_wellformed (p : Profile) (arch : Nat) (harch : arch = 0 ∨ arch = 4) (imgs : List Bytes)
    (hwf : ∀ b ∈ imgs, C06.WFImg b) (hlen : imgs.flatten.length + 24 < 2^32) :
    let total := 16 + imgs.flatten.length + 8
    let ck := calcChecksum HMAGIC arch total
    let bytes := enc32 HMAGIC ++ enc32 arch ++ enc32 total ++ enc32 ck ++ (imgs.flatten ++ endHImg)
    newBoxed p .hb (genericDesc .hb) (enc32 HMAGIC ++ enc32 arch ++ enc32 0 ++ enc32 (calcChecksum HMAGIC arch 0))
        (imgs ++ [endHImg]) = .ok ⟨bytes, total, 8, total⟩ ∧
    bytes.length = total ∧ total % 8 = 0 ∧
    (HMAGIC + arch + total + ck) % 4294967296 = 0 ∧
    hload p false bytes = .ok (.ok ⟨HMAGIC, arch, total, ck⟩) ∧
    (bytes.take total).drop 16 = imgs.flatten ++ endHImg := by
  intro total ck bytes
  have ht : total = 16 + imgs.flatten.length + 8 := rfl
  have hM : HMAGIC < 4294967296 := by decide
  have ha : arch < 4294967296 := by omega
  have htl : total < 4294967296 := by omega
  have law := C10.checksum_law HMAGIC arch total hM ha htl
  -- `set_size` makes the header of the statement out of the one `build` starts from
  have hset : setSize .hb (enc32 HMAGIC ++ enc32 arch ++ enc32 0 ++ enc32 (calcChecksum HMAGIC arch 0)) total =
      enc32 HMAGIC ++ enc32 arch ++ enc32 total ++ enc32 ck := by
    rw [setSize_hb_words, Nat.mod_eq_of_lt hM, Nat.mod_eq_of_lt ha, Nat.mod_eq_of_lt htl]
  obtain ⟨hnb, htm, (hbl : bytes.length = total), harea⟩ := C06.newBoxed_build p .hb _ endHImg imgs hwf
    (hh := rfl) (hend := rfl) (hlen := by omega) (ht := ht) (hset := hset)
  obtain ⟨w0, w4, w8, w12⟩ : le32 bytes 0 = HMAGIC ∧ le32 bytes 4 = arch ∧ le32 bytes 8 = total ∧ le32 bytes 12 = ck := by
    have := le32_words4 HMAGIC arch total ck (imgs.flatten ++ endHImg)
    rwa [Nat.mod_eq_of_lt hM, Nat.mod_eq_of_lt ha, Nat.mod_eq_of_lt htl, Nat.mod_eq_of_lt law.2] at this
  refine ⟨hnb, hbl, htm, by have := law.1; omega, ?_, harea⟩
  rw [C10.hload_eq_ok_iff p bytes ⟨by omega, by rw [w8]; omega⟩, w0, w4, w8, w12]
  exact ⟨rfl, by omega, htm, rfl, harch, rfl⟩

theorem sizedHImg_wf (typ flags c : Nat) (payload : Bytes) (hc : c = 8 + payload.length) (hs : c < 4294967296) :
    C06.WFImg ((sizedHImg typ flags c payload).asBytes) := by
  obtain ⟨hlen, hsize, hsov⟩ := sizedHImg_exact typ flags c payload hc hs
  exact C06.wf_asBytes _ (h8 := by show 8 ≤ c; omega) (hl := hlen) (h4 := hsize) (hs := hsov)

/-- the ten fixed-size header-tag constructors (the end tag among them): name, the kind it must produce, blob bytes consumed -/
def sizedHCtors : List (String × HKind × Nat) :=
  [("h_address", .address, 18), ("h_entry", .entry, 6), ("h_console", .console, 6), ("h_fb", .fb, 14), ("h_modalign", .modalign, 2),
   ("h_efibs", .efibs, 2), ("h_efi32", .efi32, 6), ("h_efi64", .efi64, 6), ("h_reloc", .reloc, 18), ("h_end", .end_, 0)]

/-- For every fixed-size header-tag constructor and ALL argument values: type = the kind's (= the specification's) number,
    flags ∈ {0,1}, size = the kind's exact unpadded size, exactly that many bytes initialised, and `as_bytes()` is a
    well-formed builder image (8-multiple long, size field rounds up to its length). -/
theorem sized_hctor_exact : ∀ c ∈ sizedHCtors, ∀ (p : Profile) (blob : Bytes), c.2.2 ≤ blob.length →
    ∃ img, ctorImpl p c.1 blob = .ok img ∧ img.typ = c.2.1.typ ∧ img.size = c.2.1.desc.fixed ∧
      (img.flags = some 0 ∨ img.flags = some 1) ∧ img.bytes.length = img.size ∧ C06.WFImg img.asBytes := by
  intro c hc p blob hlen
  -- every constructor is `sizedHImg typ flags (size of the kind) payload` with flags 0 (end tag) or a word mod 2
  suffices h : ∃ flags payload, ctorImpl p c.1 blob = .ok (sizedHImg c.2.1.typ flags c.2.1.desc.fixed payload) ∧
      (flags = 0 ∨ flags = le16 blob 0 % 2) ∧ c.2.1.desc.fixed = 8 + payload.length ∧ c.2.1.desc.fixed < 4294967296 by
    obtain ⟨flags, payload, hi, hf, hfix, hs⟩ := h
    refine ⟨_, hi, rfl, rfl, ?_, (sizedHImg_exact _ flags _ payload hfix hs).1, sizedHImg_wf _ flags _ payload hfix hs⟩
    show some flags = some 0 ∨ some flags = some 1
    obtain rfl | rfl : flags = 0 ∨ flags = 1 := by omega
    · exact .inl rfl
    · exact .inr rfl
  simp only [sizedHCtors, List.mem_cons, List.mem_nil_iff, or_false] at hc
  rcases hc with h | h | h | h | h | h | h | h | h | h <;> subst h <;> simp only at hlen <;>
    exact ⟨_, _, rfl, by first | exact .inr rfl | exact .inl rfl,
      by simp (disch := omega) only [HKind.desc, sizedDesc, List.length_append, List.length_nil, enc32_length, slice_length],
      by decide⟩

/-- `InformationRequestHeaderTag::new` for ALL flag values and request lists: never panics; type 1, flags ∈ {0,1},
    size 8 + 4·n, the header followed by exactly the n request words, a well-formed builder image. -/
theorem inforeq_ctor (p : Profile) (blob : Bytes) (h2 : 2 ≤ blob.length) (hlen : blob.length + 8 < 2^32) :
    ∃ img, ctorImpl p "h_inforeq" blob = .ok img ∧ img.typ = 1 ∧ img.flags = some (le16 blob 0 % 2) ∧
      img.size = 8 + (blob.length - 2) / 4 * 4 ∧
      img.bytes = hdrHdr 1 (le16 blob 0 % 2) (8 + (blob.length - 2) / 4 * 4) ++ slice blob 2 ((blob.length - 2) / 4 * 4) ∧
      C06.WFImg img.asBytes := by
  have hb : (blob.length - 2) / 4 * 4 ≤ blob.length - 2 := Nat.div_mul_le_self _ _
  -- the image is the struct-literal image `sizedHImg 1 flags (8 + n) ids` of the `n` request bytes
  suffices h : ∀ n, n ≤ blob.length - 2 → n % 4 = 0 →
      (newBoxed p .ht infoReqDesc (hdrHdr 1 (le16 blob 0 % 2) 0) [slice blob 2 n] >>= fun b =>
        pure (⟨1, some (le16 blob 0 % 2), 8 + (slice blob 2 n).length, b.bytes, b.deallocSize⟩ : Img)) =
        .ok (sizedHImg 1 (le16 blob 0 % 2) (8 + n) (slice blob 2 n)) from
    ⟨_, h _ hb (Nat.mul_mod_left ..), rfl, rfl, rfl, rfl,
      sizedHImg_wf _ _ _ _ (by rw [slice_length _ _ _ (by omega)]) (by omega)⟩
  intro n hn h4
  have hil : (slice blob 2 n).length = n := slice_length _ _ _ (by omega)
  rw [sizedHImg, newBoxed_eq p .ht infoReqDesc _ _ (by rw [List.flatten_singleton, hil]; omega)
    (infoReqDesc_truthful p _ (Nat.le_add_right ..) (by rw [List.flatten_singleton, hil]; show (8 + n - 8) % 4 = 0; omega)),
    Res.bind_ok, List.flatten_singleton, hil, setSize_hdrHdr]
  rfl

/-- an operation the header builder accepts: one of its ten slots with its argument bytes present -/
def HOpOk (op : String × Bytes) : Prop :=
  (∃ c ∈ sizedHCtors, c.1 = op.1 ∧ c.2.2 ≤ op.2.length) ∨ (op.1 = "h_inforeq" ∧ 2 ≤ op.2.length ∧ op.2.length + 8 < 2^32)

theorem opImg_wf (p : Profile) (op : String × Bytes) (h : HOpOk op) :
    ∃ img, opImg p op.1 op.2 = .ok img ∧ C06.WFImg img.asBytes := by
  rcases h with ⟨c, hc, hn, hl⟩ | ⟨hn, h2, hl⟩
  · obtain ⟨img, hi, -, -, -, -, hw⟩ := sized_hctor_exact c hc p op.2 hl
    exact ⟨img, C06.opImg_of_ctorImpl (hn ▸ hi), hw⟩
  · obtain ⟨img, hi, -, -, -, -, hw⟩ := inforeq_ctor p op.2 h2 hl
    exact ⟨img, C06.opImg_of_ctorImpl (hn ▸ hi), hw⟩

/-- the header builder never panics on accepted operations, and every stored image stays well-formed -/
theorem runOps_wf (p : Profile) (slots : List (String × Bool)) (ops : List (String × Bytes)) (hops : ∀ op ∈ ops, HOpOk op) :
    ∀ st, C06.StWF st → ∃ st', runOps p slots st ops = .ok st' ∧ C06.StWF st' :=
  C06.runOps_wf_of p slots HOpOk (fun op h => opImg_wf p op h) ops hops

/-- C12 END TO END (model): for EVERY sequence of accepted builder operations (any of the ten slots, any argument values,
    any order, any repetitions) and either architecture, `Builder::build` stores per slot the image of the last call, every
    stored image is well-formed, and - unless the result would exceed the 32-bit length field - the built structure
    (a) is produced without panic with allocation size = length = deallocation size, 8-aligned;
    (b) has a length word equal to its byte count, a multiple of 8, and four header words summing to 0 mod 2^32;
    (c) loads successfully; and
    (d) its tag walk yields exactly the stored tags, in slot order, followed by exactly one end tag. -/
theorem buildHdr_wellformed (p : Profile) (arch : Nat) (harch : arch = 0 ∨ arch = 4) (ops : List (String × Bytes))
    (hops : ∀ op ∈ ops, HOpOk op) :
    ∃ st, runOps p hdrSlots [] ops = .ok st ∧
      let imgs := (hdrSlots.flatMap fun s => st.get s.1).map Img.asBytes
      (∀ b ∈ imgs, C06.WFImg b) ∧
      (imgs.flatten.length + 24 < 2^32 →
        let total := 16 + imgs.flatten.length + 8
        let ck := calcChecksum HMAGIC arch total
        let bytes := enc32 HMAGIC ++ enc32 arch ++ enc32 total ++ enc32 ck ++ (imgs.flatten ++ endHImg)
        buildHdr p arch ops = .ok ⟨bytes, total, 8, total⟩ ∧
        bytes.length = total ∧ total % 8 = 0 ∧ (HMAGIC + arch + total + ck) % 4294967296 = 0 ∧
        hload p false bytes = .ok (.ok ⟨HMAGIC, arch, total, ck⟩) ∧
        Spec.tagsOf .ht ((bytes.take total).drop 16) =
          (C06.itemsOf .ht imgs 0 ++ [⟨imgs.flatten.length, 0, 8, 0⟩], .done)) := by
  obtain ⟨st, hrun, hwf⟩ := C06.runOps_imgs_wf p hdrSlots HOpOk (opImg_wf p) ops hops
  refine ⟨st, hrun, hwf, fun hlen => ?_⟩
  obtain ⟨hnb, hbl, htm, hsum, hload, harea⟩ := build_wellformed p arch harch _ hwf hlen
  refine ⟨?_, hbl, htm, hsum, hload, ?_⟩
  · unfold buildHdr
    rw [hrun, Res.bind_ok, show (sizedHImg 0 0 8 []).asBytes = endHImg from rfl]
    exact hnb
  · rw [harea]
    exact built_header_area_walk _ hwf

/-! Non-vacuity: a concrete accepted operation sequence -/
example : HOpOk ("h_entry", [1,0, 0x78,0x56,0x34,0x12]) := Or.inl ⟨("h_entry", .entry, 6), by simp [sizedHCtors], rfl, by simp⟩
example : (buildHdr .dev 0 [("h_entry", [1,0, 0x78,0x56,0x34,0x12])]).isOk = true := by decide

end Mb2.C12
