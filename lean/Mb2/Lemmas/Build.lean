/-
  The building side. `new_boxed` succeeds when the target type's own size computation agrees with the
  allocation; a type descriptor for which it does at a given declared size is `Truthful` there. One theorem
  (`newBoxed_eq`) says what `new_boxed` returns for a truthful type; every heap-built constructor and both builders use it with
  the descriptor, header and content slices as variables.
-/
import Mb2.Build
import Mb2.Lemmas.Bytes
import Mb2.Lemmas.Common
import Mb2.Lemmas.View
namespace Mb2

@[simp] theorem zeros_length (n : Nat) : (zeros n).length = n := List.length_replicate ..
@[simp] theorem mbiHdr_length (typ size : Nat) : (mbiHdr typ size).length = 8 := rfl
@[simp] theorem hdrHdr_length (typ flags size : Nat) : (hdrHdr typ flags size).length = 8 := rfl

theorem mbiHdr_decode (typ size : Nat) (rest : Bytes) :
    le32 (mbiHdr typ size ++ rest) 0 = typ % 4294967296 ∧ le32 (mbiHdr typ size ++ rest) 4 = size % 4294967296 := by
  simp only [mbiHdr, List.append_assoc, le32_skip_enc32, le32_enc32, and_self]

theorem hdrHdr_size (typ flags size : Nat) (rest : Bytes) : le32 (hdrHdr typ flags size ++ rest) 4 = size % 4294967296 := by
  simp only [hdrHdr, List.append_assoc, le32_skip_enc16, le32_enc32]

theorem setSize_mbiHdr (typ total : Nat) : setSize .tag (mbiHdr typ 0) total = mbiHdr typ total := rfl
theorem setSize_hdrHdr (typ flags total : Nat) : setSize .ht (hdrHdr typ flags 0) total = hdrHdr typ flags total := rfl

theorem setSize_tag (hdr : Bytes) (total : Nat) (h : hdr.length = 8) : setSize .tag hdr total = hdr.take 4 ++ enc32 total := by
  show hdr.take 4 ++ enc32 total ++ hdr.drop (4 + 4) = _
  rw [List.drop_of_length_le (by omega), List.append_nil]

theorem setSize_hb (hdr : Bytes) (total : Nat) :
    setSize .hb hdr total =
      hdr.take 8 ++ (enc32 total ++ enc32 (calcChecksum (le32 hdr 0) (le32 hdr 4) (total % 4294967296))) :=
  List.append_assoc ..

theorem le32_words4 (a b c d : Nat) (rest : Bytes) :
    le32 (enc32 a ++ enc32 b ++ enc32 c ++ enc32 d ++ rest) 0 = a % 4294967296 ∧
    le32 (enc32 a ++ enc32 b ++ enc32 c ++ enc32 d ++ rest) 4 = b % 4294967296 ∧
    le32 (enc32 a ++ enc32 b ++ enc32 c ++ enc32 d ++ rest) 8 = c % 4294967296 ∧
    le32 (enc32 a ++ enc32 b ++ enc32 c ++ enc32 d ++ rest) 12 = d % 4294967296 := by
  simp only [List.append_assoc, le32_skip_enc32, le32_enc32, and_self]

theorem setSize_hb_words (m a l c total : Nat) :
    setSize .hb (enc32 m ++ enc32 a ++ enc32 l ++ enc32 c) total =
      enc32 m ++ enc32 a ++ enc32 total ++
        enc32 (calcChecksum (m % 4294967296) (a % 4294967296) (total % 4294967296)) := by
  obtain ⟨v0, v4, -, -⟩ := le32_words4 m a l c []
  rw [List.append_nil] at v0 v4
  rw [setSize_hb, v0, v4, List.append_assoc (enc32 m ++ enc32 a),
    List.take_left' (l₁ := enc32 m ++ enc32 a) (i := 8) rfl, ← List.append_assoc]

theorem setSize_length (k : HK) (hdr : Bytes) (total : Nat) (h : hdr.length = k.hsize) :
    (setSize k hdr total).length = k.hsize := by
  cases k <;> simp only [setSize, List.length_append, List.length_take, List.length_drop, enc32_length, h] <;> rfl

theorem TyDesc.sizeOfVal_tail (d : TyDesc) (e n : Nat) (he : d.elem = some e) (ha : d.align = 8) :
    d.sizeOfVal n = roundUp8 (d.fixed + n * e) := by
  unfold TyDesc.sizeOfVal; rw [he, ha]; rfl

/-- at declared size `size` the type computes a tail length, and with it `size_of_val` = the size rounded up to 8: what
    the final `assert_eq!` of `new_boxed` (and, read from the other side, `cast`) demands -/
def TyDesc.Truthful (d : TyDesc) (p : Profile) (size : Nat) : Prop :=
  ∃ n, d.dstLen p size = .ok n ∧ d.sizeOfVal n = roundUp8 size

theorem dstDesc_truthful (p : Profile) (base e size : Nat) (hb : base ≤ size) (hr : (size - base) % e = 0) :
    (dstDesc base e).Truthful p size :=
  ⟨(size - base) / e, (if_neg (Nat.not_lt.mpr hb)).trans (if_neg (Decidable.not_not.mpr hr)), dstDesc_sizeOfVal hb hr⟩

theorem bytesDesc_truthful (p : Profile) (base size : Nat) (hb : base ≤ size) : (dstDesc base 1).Truthful p size :=
  dstDesc_truthful p base 1 size hb (Nat.mod_one _)

theorem networkDesc_truthful (p : Profile) (size : Nat) (h : 8 ≤ size) : networkDesc.Truthful p size :=
  ⟨size - 8, usub_ok p _ _ _ h, by rw [TyDesc.sizeOfVal_tail _ 1 _ rfl rfl]; congr 1; show 8 + _ = _; omega⟩

theorem infoReqDesc_truthful (p : Profile) (size : Nat) (h : 8 ≤ size) (h4 : (size - 8) % 4 = 0) :
    infoReqDesc.Truthful p size := by
  refine ⟨(size - 8) / 4, ?_, ?_⟩
  · show (usub p W64 size 8 >>= _) = _
    rw [usub_ok p _ _ _ h, Res.bind_ok, if_neg (by omega)]
  · rw [TyDesc.sizeOfVal_tail _ 4 _ rfl rfl]; congr 1; show 8 + _ = _; omega

theorem genericDesc_truthful (p : Profile) (k : HK) (size : Nat) (h : k.hsize ≤ size) : (genericDesc k).Truthful p size :=
  ⟨size - k.hsize, payloadLen_ge p k size h, by
    rw [TyDesc.sizeOfVal_tail _ 1 _ rfl rfl]; congr 1; show k.hsize + _ = _; omega⟩

/-- `new_boxed` for a type that is truthful at the resulting size: no panic; the header with the size patched in, the
    content without gaps; allocation = deallocation size = the total rounded up to 8, alignment 8. -/
theorem newBoxed_eq (p : Profile) (k : HK) (desc : TyDesc) (hdr : Bytes) (slices : List Bytes)
    (hfit : slices.flatten.length < 2^63) (ht : desc.Truthful p (k.hsize + slices.flatten.length)) :
    newBoxed p k desc hdr slices =
      .ok ⟨setSize k hdr (k.hsize + slices.flatten.length) ++ slices.flatten,
           roundUp8 (k.hsize + slices.flatten.length), 8, roundUp8 (k.hsize + slices.flatten.length)⟩ := by
  obtain ⟨n, hn, hs⟩ := ht
  have hfit' : k.hsize + slices.flatten.length + 7 < W64 := by
    have : k.hsize ≤ 16 := by cases k <;> decide
    rw [W64_eq]; omega
  unfold newBoxed
  simp only [incAlign_eq p _ hfit', hn, hs, Res.bind_ok, ne_eq, not_true_eq_false, if_false, Res.pure_eq]

theorem boxedImg_eq (p : Profile) (typ : Nat) (desc : TyDesc) (slices : List Bytes)
    (hfit : slices.flatten.length < 2^63) (ht : desc.Truthful p (8 + slices.flatten.length)) :
    boxedImg p typ desc slices = .ok (sizedImg typ (8 + slices.flatten.length) slices.flatten) := by
  unfold boxedImg
  rw [newBoxed_eq p .tag desc _ slices hfit ht, Res.bind_ok, setSize_mbiHdr]
  rfl

/-- A struct-literal image whose size constant is right (`c` = header + fields) has exactly `c` bytes, a header that
    decodes to (type, size), and occupies `c` rounded up to 8. Each fixed-size constructor is this with its own payload. -/
theorem sizedImg_exact (typ c : Nat) (payload : Bytes) (hc : c = 8 + payload.length) (hs : c < 4294967296) :
    (sizedImg typ c payload).bytes.length = (sizedImg typ c payload).size ∧
    le32 (sizedImg typ c payload).bytes 0 = typ % 4294967296 ∧
    le32 (sizedImg typ c payload).bytes 4 = (sizedImg typ c payload).size ∧
    (sizedImg typ c payload).sov = roundUp8 (sizedImg typ c payload).size := by
  subst hc
  refine ⟨?_, (mbiHdr_decode _ _ _).1, (mbiHdr_decode _ _ _).2.trans (Nat.mod_eq_of_lt hs), rfl⟩
  show (mbiHdr _ _ ++ payload).length = _; rw [List.length_append, mbiHdr_length]; rfl

theorem sizedHImg_exact (typ flags c : Nat) (payload : Bytes) (hc : c = 8 + payload.length) (hs : c < 4294967296) :
    (sizedHImg typ flags c payload).bytes.length = (sizedHImg typ flags c payload).size ∧
    le32 (sizedHImg typ flags c payload).bytes 4 = (sizedHImg typ flags c payload).size ∧
    (sizedHImg typ flags c payload).sov = roundUp8 (sizedHImg typ flags c payload).size := by
  subst hc
  refine ⟨?_, (hdrHdr_size _ _ _ _).trans (Nat.mod_eq_of_lt hs), rfl⟩
  show (hdrHdr _ _ _ ++ payload).length = _; rw [List.length_append, hdrHdr_length]; rfl

/-- the slices the text constructors hand to `new_boxed` (behind the fixed fields `pre`, if any) concatenate to
    `strContent` of the text -/
theorem strSlices_flatten (pre : List Bytes) (s : Bytes) :
    ((if s.getLast? = some 0 then pre ++ [s] else pre ++ [s, [0]]) : List Bytes).flatten = pre.flatten ++ strContent s := by
  unfold strContent; split <;> simp

theorem strContent_of_nul {s : Bytes} (h : s.getLast? = some 0) : strContent s = s := if_pos h

theorem strContent_of_no_nul {s : Bytes} (h : ∀ b ∈ s, b ≠ 0) : strContent s = s ++ [0] :=
  if_neg fun hl => h 0 (List.mem_of_getLast? hl) rfl

theorem strContent_length (s : Bytes) : s.length ≤ (strContent s).length ∧ (strContent s).length ≤ s.length + 1 := by
  unfold strContent; split <;> simp

end Mb2
