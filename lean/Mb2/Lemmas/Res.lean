/-
  The outcome monad `Res`: its laws, inversion of a successful `do` block, and `Safe`, an outcome that is not a fault: the
  `Res`-level notion behind `Obs.NoFault` (`Lemmas/Obs.lean`). `Safe` and its lemmas are in the namespace `C01`, where
  C01's statements name them; clients `open C01`.
-/
import Mb2.Lemmas.Bytes
import Mb2.Lemmas.Attr
namespace Mb2

/-- `Res` is a lawful monad (makes core's `mapM`/`foldlM` lemmas available) -/
instance : LawfulMonad Res := LawfulMonad.mk'
  (id_map := fun x => by cases x <;> rfl)
  (pure_bind := fun x f => rfl)
  (bind_assoc := fun x f g => by cases x <;> rfl)

theorem Res.ite_bind {α β} (c : Prop) [Decidable c] (x y : Res α) (f : α → Res β) :
    (if c then x else y) >>= f = if c then x >>= f else y >>= f := by split <;> rfl

theorem mapM_ok_of_forall {α β} (f : α → Res β) (g : α → β) (l : List α) (h : ∀ x ∈ l, f x = .ok (g x)) :
    l.mapM f = .ok (l.map g) := by
  induction l with
  | nil => rfl
  | cons x xs ih =>
    rw [List.mapM_cons, h x (by simp), ih (fun y hy => h y (by simp [hy]))]
    rfl

theorem ite_or_same {α} {a b : Prop} [Decidable a] [Decidable b] (x y : α) :
    (if a then x else if b then x else y) = if a ∨ b then x else y := by
  by_cases ha : a
  · rw [if_pos ha, if_pos (Or.inl ha)]
  · rw [if_neg ha]; exact ite_congr (propext (or_iff_right ha).symm) (fun _ => rfl) (fun _ => rfl)

theorem ite_flip {α} {c d : Prop} [Decidable c] [Decidable d] (h : c ↔ ¬ d) (x y : α) :
    (if c then x else y) = if d then y else x :=
  (ite_congr (propext h) (fun _ => rfl) fun _ => rfl).trans (ite_not d x y)

theorem ite_eq_iff_of_ne {α} {c : Prop} [Decidable c] {a x b : α} (h : a ≠ b) :
    (if c then a else x) = b ↔ ¬ c ∧ x = b := by
  by_cases hc : c
  · rw [if_pos hc]; exact ⟨fun e => absurd e h, fun e => absurd hc e.1⟩
  · rw [if_neg hc]; exact ⟨fun e => ⟨hc, e⟩, fun e => e.2⟩

theorem Res.ite_panic_eq_ok {α} {c : Prop} [Decidable c] {a b : α} :
    (if c then Res.panic else Res.ok a) = Res.ok b ↔ ¬ c ∧ a = b := by
  rw [ite_eq_iff_of_ne (by nofun), Res.ok.injEq]

theorem Res.ite_ok_eq_ok {α} {c : Prop} [Decidable c] {a b : α} :
    (if c then Res.ok a else Res.panic) = Res.ok b ↔ c ∧ a = b := by
  by_cases h : c
  · rw [if_pos h]; exact ⟨fun e => ⟨h, Res.ok.inj e⟩, fun e => congrArg _ e.2⟩
  · rw [if_neg h]; exact ⟨nofun, fun e => absurd e.1 h⟩

theorem Res.bind_eq_ok {α β} {x : Res α} {f : α → Res β} {b : β} : (x >>= f) = .ok b ↔ ∃ a, x = .ok a ∧ f a = .ok b := by
  cases x with
  | ok a => rw [Res.bind_ok]; exact ⟨fun h => ⟨a, rfl, h⟩, fun ⟨_, e, h⟩ => Res.ok.inj e ▸ h⟩
  | _ => exact ⟨nofun, fun ⟨_, e, _⟩ => nomatch e⟩

namespace C01

/-- an outcome that is a value or a controlled panic -/
def Safe {α} (r : Res α) : Prop := r ≠ .oob ∧ r ≠ .ub

@[nofault] theorem safe_ok {α} (a : α) : Safe (Res.ok a) := ⟨nofun, nofun⟩
@[nofault] theorem safe_panic {α} : Safe (Res.panic : Res α) := ⟨nofun, nofun⟩
theorem safe_of_ok {α} {r : Res α} (h : ∃ a, r = .ok a) : Safe r := by obtain ⟨a, rfl⟩ := h; exact safe_ok a

theorem safe_iff {α} {r : Res α} : Safe r ↔ r = .panic ∨ ∃ a, r = .ok a := by
  cases r with
  | ok a => exact iff_of_true (safe_ok a) (.inr ⟨a, rfl⟩)
  | panic => exact iff_of_true safe_panic (.inl rfl)
  | oob => exact iff_of_false (fun h => h.1 rfl) (by simp)
  | ub => exact iff_of_false (fun h => h.2 rfl) (by simp)

theorem safe_bind {α β} (x : Res α) (f : α → Res β) (hx : Safe x) (hf : ∀ a, x = .ok a → Safe (f a)) : Safe (x >>= f) := by
  rcases safe_iff.mp hx with rfl | ⟨a, rfl⟩
  · exact safe_panic
  · exact hf a rfl

theorem safe_ite {α} {c : Prop} [Decidable c] {a b : Res α} (ha : Safe a) (hb : Safe b) : Safe (if c then a else b) := by
  split <;> assumption

theorem safe_rd8 (T : Bytes) (o : Nat) (h : o + 1 ≤ T.length) : Safe (rd8 T o) := rd8_ok h ▸ safe_ok _
theorem safe_rd64 (T : Bytes) (o : Nat) (h : o + 8 ≤ T.length) : Safe (rd64 T o) := rd64_ok h ▸ safe_ok _

theorem safe_rdSlice_iff {b : Bytes} {a n : Nat} : Safe (rdSlice b a n) ↔ a + n ≤ b.length := by
  unfold rdSlice; split
  · exact iff_of_true (safe_ok _) ‹_›
  · exact iff_of_false (fun h => h.1 rfl) ‹_›

theorem safe_usub (p : Profile) (w a b : Nat) : Safe (usub p w a b) := by
  unfold usub; cases p <;> exact safe_ite (safe_ok _) (by first | exact safe_panic | exact safe_ok _)

end C01
end Mb2
