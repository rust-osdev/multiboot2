/-
  The identifier conversions of `Mb2/Ids.lean` as case distinctions: a conversion from `u32` is decided by checking the
  finitely many named values and treating every other value as `custom` (ELF section types: as one of two ranges).
-/
import Mb2.Ids
namespace Mb2

/-- a fact about a 32-bit value: check the values below `n`, argue from `n ≤ v` for the rest -/
@[elab_as_elim] theorem UInt32.cases_below (n : Nat) {P : UInt32 → Prop} (v : UInt32)
    (below : ∀ k : Fin n, P (.ofNat k)) (above : n ≤ v.toNat → P v) : P v := by
  by_cases h : v.toNat < n
  · simpa using below ⟨v.toNat, h⟩
  · exact above (Nat.le_of_not_lt h)

theorem TagType.ofU32_of_ge {v : UInt32} (h : 22 ≤ v.toNat) : TagType.ofU32 v = .custom v := by
  unfold TagType.ofU32
  split <;> first | rfl | (exfalso; revert h; decide)

theorem TagType.ofU32_cases {P : UInt32 → TagType → Prop} (v : UInt32)
    (named : ∀ k : Fin 22, P (.ofNat k) (.ofU32 (.ofNat k))) (custom : 22 ≤ v.toNat → P v (.custom v)) :
    P v (.ofU32 v) :=
  UInt32.cases_below 22 v named fun h => TagType.ofU32_of_ge h ▸ custom h

theorem MemoryAreaType.ofU32_of_ge {v : UInt32} (h : 6 ≤ v.toNat) : MemoryAreaType.ofU32 v = .custom v := by
  unfold MemoryAreaType.ofU32
  split <;> first | rfl | (exfalso; revert h; decide)

theorem MemoryAreaType.ofU32_cases {P : UInt32 → MemoryAreaType → Prop} (v : UInt32)
    (named : ∀ k : Fin 6, P (.ofNat k) (.ofU32 (.ofNat k))) (custom : 6 ≤ v.toNat → P v (.custom v)) :
    P v (.ofU32 v) :=
  UInt32.cases_below 6 v named fun h => MemoryAreaType.ofU32_of_ge h ▸ custom h

/-- above the twelve listed values only the two ranges are left -/
theorem ElfSectionType.classify_of_gt {n : Nat} (h : 11 < n) : ElfSectionType.classify n =
    if 0x60000000 ≤ n ∧ n ≤ 0x6FFFFFFF then .environmentSpecific
    else if 0x70000000 ≤ n ∧ n ≤ 0x7FFFFFFF then .processorSpecific else .unused := by
  unfold ElfSectionType.classify
  repeat rw [if_neg (Nat.ne_of_gt (by omega))]

theorem fbTypeOfByte_eq (b : Nat) : fbTypeOfByte b = if b ≤ 2 then some b else none := by
  unfold fbTypeOfByte
  by_cases h0 : b = 0 <;> by_cases h1 : b = 1 <;> by_cases h2 : b = 2 <;> simp_all <;> omega

end Mb2
