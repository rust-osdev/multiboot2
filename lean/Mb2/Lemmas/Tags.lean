import Mb2.Tags
import Mb2.Lemmas.Bytes
namespace Mb2

/-- little-endian value of width `w` -/
def leW (b : Bytes) (o w : Nat) : Nat :=
  match w with
  | 1 => u8At b o | 2 => le16 b o | 4 => le32 b o | _ => le64 b o

theorem leW_congr {b b' : Bytes} {o o' w : Nat} (hw : w = 1 ∨ w = 2 ∨ w = 4 ∨ w = 8)
    (h : ∀ j, j < w → u8At b (o + j) = u8At b' (o' + j)) : leW b o w = leW b' o' w := by
  rcases hw with rfl | rfl | rfl | rfl
  · exact h 0 (by omega)
  · exact le16_congr h
  · exact le32_congr h
  · exact le64_congr h

theorem leW_append_right (a b : Bytes) (i w : Nat) (hw : w = 1 ∨ w = 2 ∨ w = 4 ∨ w = 8) :
    leW (a ++ b) (a.length + i) w = leW b i w :=
  leW_congr hw fun j _ => by rw [Nat.add_assoc]; exact u8At_append_right a b (i + j)

theorem leW_take (b : Bytes) (n o w : Nat) (hw : w = 1 ∨ w = 2 ∨ w = 4 ∨ w = 8) (h : o + w ≤ n) :
    leW (b.take n) o w = leW b o w :=
  leW_congr hw fun j _ => u8At_take b n (o + j) (by omega)

theorem leW_slice (b : Bytes) (a n o w : Nat) (hw : w = 1 ∨ w = 2 ∨ w = 4 ∨ w = 8) (h : o + w ≤ n) :
    leW (slice b a n) o w = leW b (a + o) w :=
  leW_congr hw fun j _ => by rw [u8At_slice b a n (o + j) (by omega), Nat.add_assoc]

theorem rdW_ok (T : Bytes) (o w : Nat) (hw : w = 1 ∨ w = 2 ∨ w = 4 ∨ w = 8) (h : o + w ≤ T.length) :
    rdW T o w = .ok (leW T o w) := by
  rcases hw with rfl | rfl | rfl | rfl <;> exact if_pos h

theorem rdW_slice (area : Bytes) (off n o w : Nat) (hw : w = 1 ∨ w = 2 ∨ w = 4 ∨ w = 8)
    (hin : o + w ≤ n) (hfit : off + n ≤ area.length) :
    rdW (slice area off n) o w = .ok (leW area (off + o) w) := by
  rw [rdW_ok _ o w hw (by rw [slice_length area off n hfit]; exact hin), leW_slice area off n o w hw hin]

theorem rdW_fields (area : Bytes) (off n fixed : Nat) (fs : List (String × Nat × Nat)) (hfit : off + n ≤ area.length)
    (hn : fixed ≤ n) (hfs : ∀ f ∈ fs, f.2.1 + f.2.2 ≤ fixed ∧ (f.2.2 = 1 ∨ f.2.2 = 2 ∨ f.2.2 = 4 ∨ f.2.2 = 8)) :
    ∀ f ∈ fs, rdW (slice area off n) f.2.1 f.2.2 = .ok (leW area (off + f.2.1) f.2.2) :=
  fun f hf => rdW_slice area off n f.2.1 f.2.2 (hfs f hf).2 (Nat.le_trans (hfs f hf).1 hn) hfit

/-- `FramebufferTag::buffer_type` as a decision on the type byte at offset 29 -/
theorem fbBufferType_eq (T : Bytes) (v : View) (hT : 30 ≤ T.length) :
    fbBufferType T v =
      if 2 < u8At T 29 then .ok (.error (u8At T 29))
      else if u8At T 29 = 0 then do
        let lo ← fbByte T v.n 0
        let hi ← fbByte T v.n 1
        if 2 + (hi * 256 + lo) * 3 ≤ v.n then .ok (.ok (.indexed 34 (hi * 256 + lo))) else .panic
      else if u8At T 29 = 1 then do
        let a ← fbByte T v.n 0
        let b ← fbByte T v.n 1
        let c ← fbByte T v.n 2
        let d ← fbByte T v.n 3
        let e ← fbByte T v.n 4
        let f ← fbByte T v.n 5
        .ok (.ok (.rgb a b c d e f))
      else .ok (.ok .text) := by
  unfold fbBufferType
  rw [rd8_ok (by omega), Res.bind_ok]
  by_cases h0 : u8At T 29 = 0
  · rw [h0]; rfl
  by_cases h1 : u8At T 29 = 1
  · rw [h1]; rfl
  by_cases h2 : u8At T 29 = 2
  · rw [h2]; rfl
  · unfold fbTypeOfByte
    rw [if_neg h0, if_neg h1, if_neg h2, if_pos (by omega)]; rfl

end Mb2
