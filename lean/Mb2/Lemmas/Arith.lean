/-
  Rounding to multiples of 8 and the profile-dependent machine arithmetic of `Mb2/Basic.lean`.
-/
import Mb2.Basic
namespace Mb2

theorem roundUp8_ge (n : Nat) : n ≤ roundUp8 n := by unfold roundUp8; omega
theorem roundUp8_lt (n : Nat) : roundUp8 n < n + 8 := by unfold roundUp8; omega
theorem roundUp8_mod (n : Nat) : roundUp8 n % 8 = 0 := by unfold roundUp8; omega
theorem roundUp8_add8 (a n : Nat) (h : a % 8 = 0) : roundUp8 (a + n) = a + roundUp8 n := by
  unfold roundUp8; omega
theorem roundUp8_of_mod (n : Nat) (h : n % 8 = 0) : roundUp8 n = n := by unfold roundUp8; omega
theorem roundUp8_least (n m : Nat) (hm : m % 8 = 0) (h : n ≤ m) : roundUp8 n ≤ m := by unfold roundUp8; omega
theorem roundDown8_add7 (n : Nat) : roundDown8 (n + 7) = roundUp8 n := rfl

/-- wrap-around facts about `W64`, proved once from its value so that goals can keep `W64` folded -/
theorem wrap_sub8 (d : Nat) (h : d < 8) : (d + W64 - 8) % W64 = d + W64 - 8 := by simp only [W64_eq]; omega
theorem wrap_add8 (d : Nat) (h : d < 8) : (8 + (d + W64 - 8)) % W64 = d := by simp only [W64_eq]; omega

theorem uadd_ok (p : Profile) (w a b : Nat) (h : a + b < w) : uadd p w a b = .ok (a + b) := by
  unfold uadd; rw [if_pos h]
theorem uadd_wrap (w a b : Nat) (h : ¬ a + b < w) : uadd .release w a b = .ok ((a + b) % w) := by
  unfold uadd; rw [if_neg h]
theorem uadd_dev_panic (w a b : Nat) (h : ¬ a + b < w) : uadd .dev w a b = .panic := by
  unfold uadd; rw [if_neg h]
theorem usub_ok (p : Profile) (w a b : Nat) (h : b ≤ a) : usub p w a b = .ok (a - b) := by
  unfold usub; rw [if_pos h]
theorem usub_wrap (w a b : Nat) (h : ¬ b ≤ a) : usub .release w a b = .ok ((a + w - b) % w) := by
  unfold usub; rw [if_neg h]
theorem usub_dev_panic (w a b : Nat) (h : ¬ b ≤ a) : usub .dev w a b = .panic := by
  unfold usub; rw [if_neg h]
theorem umul_ok (p : Profile) (w a b : Nat) (h : a * b < w) : umul p w a b = .ok (a * b) := by
  unfold umul; rw [if_pos h]

theorem incAlign_eq (p : Profile) (n : Nat) (h : n + 7 < W64) : incAlign p n = .ok (roundUp8 n) := by
  unfold incAlign
  rw [uadd_ok p _ _ _ h]; rfl

theorem incAlign_mod {p : Profile} {n a : Nat} (h : incAlign p n = .ok a) : a % 8 = 0 := by
  unfold incAlign at h
  cases hs : uadd p W64 n 7 <;> rw [hs] at h <;> cases h
  unfold roundDown8; omega

end Mb2
