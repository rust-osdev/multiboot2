/-
  `cast` and `get_tag`, once for both crates.

  `getTag` (boot information, header kind `tag`) and `hgetTag` (header, kind `ht`) are the same function of the walk result
  and of the cast: `firstCast`. Everything the properties say about typed getters (first match, same address, never a
  fault) is proved here about `firstCast` with the walk and the cast as variables.
-/
import Mb2.HTags
import Mb2.Lemmas.Res
namespace Mb2
open C01

theorem roundUp_8 (n : Nat) : roundUp n 8 = roundUp8 n := rfl

theorem dynSizeOfVal_sub8 (k : HK) (hk : k.hsize = 8) (size : Nat) (hs : 8 ≤ size) :
    dynSizeOfVal k (size - 8) = roundUp8 size := by
  unfold dynSizeOfVal; rw [hk, Nat.add_sub_cancel' hs]

/-- `cast` when the target's base fits the header: `dst_len`, then the `size_of_val` assertion -/
theorem castTo_of_base {p : Profile} {k : HK} {t : TyDesc} (hb : k.hsize ≤ t.baseSize) (size pl : Nat) :
    castTo p k t size pl =
      t.dstLen p size >>= fun n => if dynSizeOfVal k pl ≠ t.sizeOfVal n then .panic else .ok (t.sizeOfVal n, n) := by
  unfold castTo; rw [if_neg (Decidable.not_not.mpr hb)]

theorem castTo_eq_ok_iff {p : Profile} {k : HK} {t : TyDesc} {size pl sov n : Nat} :
    castTo p k t size pl = .ok (sov, n) ↔
      k.hsize ≤ t.baseSize ∧ t.dstLen p size = .ok n ∧ dynSizeOfVal k pl = t.sizeOfVal n ∧ sov = t.sizeOfVal n := by
  by_cases hb : k.hsize ≤ t.baseSize
  · rw [castTo_of_base hb]
    cases hd : t.dstLen p size with
    | ok m =>
      rw [Res.bind_ok, Res.ite_panic_eq_ok, Prod.mk.injEq, Res.ok.injEq]
      constructor
      · rintro ⟨h, rfl, rfl⟩; exact ⟨hb, rfl, Decidable.not_not.mp h, rfl⟩
      · rintro ⟨_, rfl, h, rfl⟩; exact ⟨Decidable.not_not.mpr h, rfl, rfl⟩
    | _ => exact ⟨nofun, fun h => nomatch h.2.1⟩
  · unfold castTo; rw [if_pos hb]; exact ⟨nofun, fun h => absurd h.1 hb⟩

theorem dstDesc_sizeOfVal {base e size : Nat} (hb : base ≤ size) (hr : (size - base) % e = 0) :
    (dstDesc base e).sizeOfVal ((size - base) / e) = roundUp8 size := by
  show roundUp (base + (size - base) / e * e) 8 = roundUp8 size
  rw [Nat.div_mul_cancel (Nat.dvd_of_mod_eq_zero hr), Nat.add_sub_cancel' hb, roundUp_8]

/-- the cast of a walked tag to a `dstDesc` type, any 8-byte header kind: a controlled panic unless the fixed part fits and the
    tail is a whole number of elements; then the view spans the tag's extent and has `(size − base)/e` tail elements -/
theorem castTo_dstDesc (p : Profile) (k : HK) (hk : k.hsize = 8) (base e size : Nat) (hs : 8 ≤ size) (hb8 : 8 ≤ base) :
    castTo p k (dstDesc base e) size (size - 8) =
      (if size < base ∨ (size - base) % e ≠ 0 then .panic else .ok (roundUp8 size, (size - base) / e)) := by
  rw [castTo_of_base (hk ▸ hb8 : k.hsize ≤ (dstDesc base e).baseSize), dynSizeOfVal_sub8 k hk size hs]
  show (if size < base then Res.panic else if (size - base) % e ≠ 0 then .panic else .ok ((size - base) / e)) >>= _ = _
  rw [ite_or_same, Res.ite_bind]
  refine ite_congr rfl (fun _ => rfl) fun c => ?_
  rw [Res.bind_ok, dstDesc_sizeOfVal (by omega) (by omega), if_neg (Decidable.not_not.mpr rfl)]

theorem castTo_dstDesc_eq_ok {p : Profile} {k : HK} (hk : k.hsize = 8) {base e size sov n : Nat} (hs : 8 ≤ size)
    (hb8 : 8 ≤ base) (h : castTo p k (dstDesc base e) size (size - 8) = .ok (sov, n)) :
    base ≤ size ∧ base + n * e = size ∧ sov = roundUp8 size := by
  rw [castTo_dstDesc p k hk base e size hs hb8, Res.ite_panic_eq_ok, Prod.mk.injEq] at h
  obtain ⟨c, rfl, rfl⟩ := h
  have := Nat.div_mul_cancel (Nat.dvd_of_mod_eq_zero (by omega : (size - base) % e = 0))
  exact ⟨by omega, by omega, rfl⟩

theorem castTo_safe {p : Profile} {t : TyDesc} {size : Nat} (h : Safe (t.dstLen p size)) (k : HK) (pl : Nat) :
    Safe (castTo p k t size pl) :=
  safe_ite safe_panic (safe_bind _ _ h fun _ _ => safe_ite safe_panic (safe_ok _))

theorem dstDesc_safe (base e : Nat) (p : Profile) (size : Nat) : Safe ((dstDesc base e).dstLen p size) :=
  safe_ite safe_panic (safe_ite safe_panic (safe_ok _))
theorem networkDesc_safe (p : Profile) (size : Nat) : Safe (networkDesc.dstLen p size) := safe_usub ..
theorem infoReqDesc_safe (p : Profile) (size : Nat) : Safe (infoReqDesc.dstLen p size) :=
  safe_bind _ _ (safe_usub ..) fun _ _ => safe_ite safe_panic (safe_ok _)

theorem Kind.desc_safe (k : Kind) (p : Profile) (size : Nat) : Safe (k.desc.dstLen p size) := by
  cases k <;> first | exact safe_ok _ | exact dstDesc_safe .. | exact networkDesc_safe ..

theorem HKind.desc_safe (k : HKind) (p : Profile) (size : Nat) : Safe (k.desc.dstLen p size) := by
  cases k <;> first | exact safe_ok _ | exact infoReqDesc_safe ..

theorem TyDesc.fixed_le_sizeOfVal (t : TyDesc) (ha : 0 < t.align) (n : Nat) : t.fixed ≤ t.sizeOfVal n := by
  have key : ∀ x, x ≤ roundUp x t.align := fun x => by
    unfold roundUp
    generalize hy : x + t.align - 1 = y
    have h1 := Nat.div_add_mod y t.align
    have h2 := Nat.mod_lt y ha
    rw [Nat.mul_comm] at h1
    omega
  unfold TyDesc.sizeOfVal
  cases t.elem with
  | none => exact key _
  | some e => exact Nat.le_trans (Nat.le_add_right _ _) (key _)

theorem Kind.desc_align (k : Kind) : k.desc.align = 8 := by cases k <;> rfl
theorem HKind.desc_align (k : HKind) : k.desc.align = 8 := by cases k <;> rfl

/-- `get_tag::<T>()` of either crate as a function of the drained walk `w` and the cast `c` -/
def firstCast (w : List Item × End) (typ : Nat) (c : Item → Res (Nat × Nat)) : Res (Option View) :=
  match w.1.find? (fun it => it.typ == typ) with
  | some it =>
    match c it with
    | .ok (sov, n) => .ok (some ⟨it.off, it.size, sov, n⟩)
    | .panic => .panic | .oob => .oob | .ub => .ub
  | none =>
    match w.2 with
    | .done => .ok none
    | .bad => .panic
    | .oob => .oob
    | .ub => .ub

theorem getTag_eq (p : Profile) (area : Bytes) (k : Kind) :
    getTag p area k = firstCast (tagsOf p .tag area) k.typ fun it => castTo p .tag k.desc it.size it.pl := rfl

theorem hgetTag_eq (p : Profile) (area : Bytes) (k : HKind) :
    hgetTag p area k = firstCast (tagsOf p .ht area) k.typ fun it => castTo p .ht k.desc it.size it.pl := rfl

variable {w : List Item × End} {typ : Nat} {c : Item → Res (Nat × Nat)}

theorem firstCast_eq_some {v : View} :
    firstCast w typ c = .ok (some v) ↔
      ∃ it, w.1.find? (fun it => it.typ == typ) = some it ∧ it.off = v.off ∧ it.size = v.size ∧ c it = .ok (v.sov, v.n) := by
  unfold firstCast
  cases w.1.find? (fun it => it.typ == typ) with
  | none => cases w.2 <;> simp
  | some it =>
    obtain ⟨off, size, sov, n⟩ := v
    simp only [Option.some.injEq, exists_eq_left']
    cases c it with
    | ok r => obtain ⟨sov', n'⟩ := r; simp only [Res.ok.injEq, Option.some.injEq, View.mk.injEq, Prod.mk.injEq]
    | _ => simp

theorem firstCast_eq_none :
    firstCast w typ c = .ok none ↔ w.1.find? (fun it => it.typ == typ) = none ∧ w.2 = .done := by
  unfold firstCast
  cases w.1.find? (fun it => it.typ == typ) with
  | none => cases w.2 <;> simp
  | some it => simp only; cases c it <;> simp

theorem firstCast_safe (hw : w.2 = .done ∨ w.2 = .bad) (hc : ∀ it, Safe (c it)) : Safe (firstCast w typ c) := by
  unfold firstCast
  cases w.1.find? (fun it => it.typ == typ) with
  | none => rcases hw with h | h <;> rw [h] <;> first | exact safe_ok _ | exact safe_panic
  | some it =>
    simp only
    rcases safe_iff.mp (hc it) with h | ⟨r, h⟩ <;> rw [h]
    · exact safe_panic
    · exact safe_ok _

theorem firstCast_congr {c' : Item → Res (Nat × Nat)} (h : ∀ it ∈ w.1, c it = c' it) :
    firstCast w typ c = firstCast w typ c' := by
  unfold firstCast
  cases hf : w.1.find? (fun it => it.typ == typ) with
  | none => rfl
  | some it => simp only [h it (List.mem_of_find?_eq_some hf)]

theorem find?_typ_eq_some {l : List Item} {it : Item} (h : l.find? (fun it => it.typ == typ) = some it) :
    it.typ = typ ∧ ∃ pre post, l = pre ++ it :: post ∧ ∀ x ∈ pre, x.typ ≠ typ := by
  obtain ⟨hp, pre, post, hl, hpre⟩ := List.find?_eq_some_iff_append.mp h
  exact ⟨by simpa using hp, pre, post, hl, fun x hx => by simpa using hpre x hx⟩

theorem find?_typ_eq_none {l : List Item} (h : l.find? (fun it => it.typ == typ) = none) : ∀ x ∈ l, x.typ ≠ typ :=
  fun x hx => by simpa using List.find?_eq_none.mp h x hx

/-- both crates' "first tag of that type" claim (`C04.getTag_first`, `C11.hgetTag_first`) -/
theorem firstCast_first :
    (∀ v, firstCast w typ c = .ok (some v) →
        ∃ pre it post, w.1 = pre ++ it :: post ∧ it.typ = typ ∧ it.off = v.off ∧ it.size = v.size ∧
          (∀ x ∈ pre, x.typ ≠ typ) ∧ c it = .ok (v.sov, v.n)) ∧
    (firstCast w typ c = .ok none → w.2 = .done ∧ ∀ x ∈ w.1, x.typ ≠ typ) := by
  refine ⟨fun v h => ?_, fun h => ?_⟩
  · obtain ⟨it, hf, ho, hs, hc⟩ := firstCast_eq_some.mp h
    obtain ⟨ht, pre, post, hl, hpre⟩ := find?_typ_eq_some hf
    exact ⟨pre, it, post, hl, ht, ho, hs, hpre, hc⟩
  · obtain ⟨hf, hd⟩ := firstCast_eq_none.mp h
    exact ⟨hd, find?_typ_eq_none hf⟩

end Mb2
