/-
  Reading little-endian words out of byte lists that are built with `++`, `take`, `drop`, `slice` and the encoders.
  Everything rests on two facts: where byte `i` of such a list comes from (`u8At_*`), and that a word read depends on
  nothing but the bytes it covers (`le16_congr`, `le32_congr`, `le64_congr`).
-/
import Mb2.Basic
namespace Mb2

theorem u8At_lt (b : Bytes) (i : Nat) : u8At b i < 256 := UInt8.toNat_lt _
theorem le16_lt (b : Bytes) (o : Nat) : le16 b o < 65536 := by
  have := u8At_lt b o; have := u8At_lt b (o+1); unfold le16; omega
theorem le32_lt (b : Bytes) (o : Nat) : le32 b o < 4294967296 := by
  have := u8At_lt b o; have := u8At_lt b (o+1); have := u8At_lt b (o+2); have := u8At_lt b (o+3)
  unfold le32; omega
theorem le64_lt (b : Bytes) (o : Nat) : le64 b o < 18446744073709551616 := by
  have := le32_lt b o; have := le32_lt b (o+4); unfold le64; omega

theorem rd8_ok {b : Bytes} {o : Nat} (h : o + 1 ≤ b.length) : rd8 b o = .ok (u8At b o) := if_pos h
theorem rd16_ok {b : Bytes} {o : Nat} (h : o + 2 ≤ b.length) : rd16 b o = .ok (le16 b o) := if_pos h
theorem rd32_ok {b : Bytes} {o : Nat} (h : o + 4 ≤ b.length) : rd32 b o = .ok (le32 b o) := if_pos h
theorem rd64_ok {b : Bytes} {o : Nat} (h : o + 8 ≤ b.length) : rd64 b o = .ok (le64 b o) := if_pos h
theorem rdSlice_ok {b : Bytes} {a n : Nat} (h : a + n ≤ b.length) : rdSlice b a n = .ok (slice b a n) := if_pos h

@[simp] theorem slice_length (b : Bytes) (a n : Nat) (h : a + n ≤ b.length) : (slice b a n).length = n := by
  unfold slice; simp; omega

theorem u8At_slice (b : Bytes) (a n i : Nat) (h : i < n) : u8At (slice b a n) i = u8At b (a + i) := by
  unfold u8At slice
  simp [h]

theorem u8At_take (b : Bytes) (t i : Nat) (h : i < t) : u8At (b.take t) i = u8At b i := by
  unfold u8At
  simp [h]

theorem u8At_append_left (a b : Bytes) (i : Nat) (h : i < a.length) : u8At (a ++ b) i = u8At a i := by
  unfold u8At; simp [List.getElem?_append_left h]

theorem u8At_append_right (a b : Bytes) (i : Nat) : u8At (a ++ b) (a.length + i) = u8At b i := by
  unfold u8At; simp [List.getElem?_append_right]

theorem u8At_drop (b : Bytes) (i j : Nat) : u8At (b.drop i) j = u8At b (i + j) := by
  unfold u8At; simp

theorem le16_congr {b b' : Bytes} {o o' : Nat} (h : ∀ j, j < 2 → u8At b (o + j) = u8At b' (o' + j)) :
    le16 b o = le16 b' o' := by
  unfold le16; rw [← h 1 (by omega)]; have := h 0 (by omega); rw [Nat.add_zero, Nat.add_zero] at this; rw [this]

theorem le32_congr {b b' : Bytes} {o o' : Nat} (h : ∀ j, j < 4 → u8At b (o + j) = u8At b' (o' + j)) :
    le32 b o = le32 b' o' := by
  unfold le32
  rw [← h 1 (by omega), ← h 2 (by omega), ← h 3 (by omega)]
  have := h 0 (by omega); rw [Nat.add_zero, Nat.add_zero] at this; rw [this]

theorem le64_congr {b b' : Bytes} {o o' : Nat} (h : ∀ j, j < 8 → u8At b (o + j) = u8At b' (o' + j)) :
    le64 b o = le64 b' o' := by
  unfold le64
  rw [le32_congr (b := b) (b' := b') (o := o) (o' := o') fun j hj => h j (by omega),
      le32_congr (b := b) (b' := b') (o := o + 4) (o' := o' + 4) fun j hj => by
        rw [Nat.add_assoc, Nat.add_assoc]; exact h (4 + j) (by omega)]

theorem le16_append_left (a b : Bytes) (i : Nat) (h : i + 2 ≤ a.length) : le16 (a ++ b) i = le16 a i :=
  le16_congr fun j _ => u8At_append_left a b (i + j) (by omega)

theorem le32_append_left (a b : Bytes) (i : Nat) (h : i + 4 ≤ a.length) : le32 (a ++ b) i = le32 a i :=
  le32_congr fun j _ => u8At_append_left a b (i + j) (by omega)

theorem le16_append_right (a b : Bytes) (i : Nat) : le16 (a ++ b) (a.length + i) = le16 b i :=
  le16_congr fun j _ => by rw [Nat.add_assoc]; exact u8At_append_right a b (i + j)

theorem le32_append_right (a b : Bytes) (i : Nat) : le32 (a ++ b) (a.length + i) = le32 b i :=
  le32_congr fun j _ => by rw [Nat.add_assoc]; exact u8At_append_right a b (i + j)

/-- `le32_append_right` for an offset that is not literally `a.length + i`; the caller names `i` -/
theorem le32_append_right_of (a b : Bytes) (i : Nat) {n : Nat} (h : n = a.length + i) : le32 (a ++ b) n = le32 b i :=
  h ▸ le32_append_right a b i

theorem le32_mid (pre mid post : Bytes) (i : Nat) (h : i + 4 ≤ mid.length) :
    le32 (pre ++ (mid ++ post)) (pre.length + i) = le32 mid i := by
  rw [le32_append_right, le32_append_left mid post i h]

theorem le16_mid (pre mid post : Bytes) (i : Nat) (h : i + 2 ≤ mid.length) :
    le16 (pre ++ (mid ++ post)) (pre.length + i) = le16 mid i := by
  rw [le16_append_right, le16_append_left mid post i h]

theorem le32_take (b : Bytes) (t o : Nat) (h : o + 4 ≤ t) : le32 (b.take t) o = le32 b o :=
  le32_congr fun j _ => u8At_take b t (o + j) (by omega)

theorem rd32_take (b : Bytes) (t o : Nat) (h : o + 4 ≤ t) (ht : t ≤ b.length) :
    rd32 (b.take t) o = .ok (le32 b o) := by
  rw [rd32_ok (by rw [List.length_take]; omega), le32_take b t o h]

theorem le32_slice (b : Bytes) (a n o : Nat) (h : o + 4 ≤ n) : le32 (slice b a n) o = le32 b (a + o) :=
  le32_congr fun j _ => by rw [u8At_slice b a n (o + j) (by omega), Nat.add_assoc]

theorem le32_drop (b : Bytes) (i o : Nat) : le32 (b.drop i) o = le32 b (i + o) :=
  le32_congr fun j _ => by rw [u8At_drop, Nat.add_assoc]

theorem le16_slice (b : Bytes) (a n o : Nat) (h : o + 2 ≤ n) : le16 (slice b a n) o = le16 b (a + o) :=
  le16_congr fun j _ => by rw [u8At_slice b a n (o + j) (by omega), Nat.add_assoc]

theorem le64_slice (b : Bytes) (a n o : Nat) (h : o + 8 ≤ n) : le64 (slice b a n) o = le64 b (a + o) :=
  le64_congr fun j _ => by rw [u8At_slice b a n (o + j) (by omega), Nat.add_assoc]

theorem slice_zero (b : Bytes) (n : Nat) : slice b 0 n = b.take n := rfl

/-- A prefix absorbs the slice that follows it. With `slice_zero` this joins `slice b 0 n₁ ++ slice b n₁ n₂ ++ …`, the
    argument bytes a struct-literal constructor stores field by field, into one `b.take n`. -/
theorem take_append_slice (b : Bytes) (n m : Nat) : b.take n ++ slice b n m = b.take (n + m) := by
  unfold slice; rw [List.take_add]

/-- The length of a slice without a side condition, for `omega` to resolve from the bounds in the context. For one or
    two slices: every `min` doubles `omega`'s case split, so for a chain of slices use `slice_length` with
    `simp (disch := omega)` instead. -/
theorem slice_length_eq (b : Bytes) (a n : Nat) : (slice b a n).length = min n (b.length - a) := by
  unfold slice; rw [List.length_take, List.length_drop]

theorem u8_ofNat_toNat (v : Nat) : (UInt8.ofNat v).toNat = v % 256 := by simp [UInt8.toNat_ofNat']

@[simp] theorem enc16_length (v : Nat) : (enc16 v).length = 2 := rfl
@[simp] theorem enc32_length (v : Nat) : (enc32 v).length = 4 := rfl

theorem le32_enc32 (v : Nat) (rest : Bytes) : le32 (enc32 v ++ rest) 0 = v % 4294967296 := by
  unfold le32 u8At enc32
  simp only [List.cons_append, List.getD_cons_zero, List.getD_cons_succ, u8_ofNat_toNat]
  omega

theorem le16_enc16 (v : Nat) (rest : Bytes) : le16 (enc16 v ++ rest) 0 = v % 65536 := by
  unfold le16 u8At enc16
  simp only [List.cons_append, List.getD_cons_zero, List.getD_cons_succ, u8_ofNat_toNat]
  omega

/-- Reading behind an encoded word. With `le32_enc32` and `List.append_assoc` these decode any header that is written
    as a chain `enc.. a ++ enc.. b ++ …`, whatever the (literal) offset: `simp` matches `i + 4` against `8`. -/
theorem le32_skip_enc32 (v : Nat) (rest : Bytes) (i : Nat) : le32 (enc32 v ++ rest) (i + 4) = le32 rest i :=
  Nat.add_comm i 4 ▸ le32_append_right (enc32 v) rest i

theorem le32_skip_enc16 (v : Nat) (rest : Bytes) (i : Nat) : le32 (enc16 v ++ rest) (i + 2) = le32 rest i :=
  Nat.add_comm i 2 ▸ le32_append_right (enc16 v) rest i

end Mb2
