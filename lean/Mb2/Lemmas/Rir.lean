/-
  Symbolic evaluation of `Rir.eval`. `simp only [Gen.Fns.f, rir]` turns `evalO p args Gen.Fns.f`, for a translated body and
  symbolic argument values, into the computation it denotes, in a normal form that model functions unfolded with the same
  set share: binds of the machine arithmetic (`uadd` / `usub` / `umul`) associated to the right, `if`s outermost, conditions
  written with `≤` and `=` and never negated. What is left to a proof is what is not computation: an arithmetic fact
  (`usub_ok`, a `% W64` that changes nothing), a case split on a value whose shape the body inspects.
  State the model side of a Boolean-valued body with `if` (inside or outside `.bool`, as `rsdp2_checksum_eq` does), not with
  `&&` or `decide (_ ∧ _)`: `if`s are pushed outwards, out of `.bool` too, and the two sides then meet. A side written with
  `&&` stays as it is, and the proof has to split on the conditions (`has_valid_end_tag_eq`).
-/
import Mb2.Rir
import Mb2.Lemmas.Res
import Mb2.Lemmas.Attr
import Lean.Meta.Tactic.Simp.BuiltinSimprocs
namespace Mb2.Rir

/-! ### `eval`: its own defining equations (the `bin` arm excludes `&&` / `||`, decided by the simprocs) -/

attribute [rir] eval
@[rir] theorem evalO_some (p : Profile) (vs : List V) (e : E) : evalO p vs (some e) = some (eval p (envOf vs) e) := rfl

@[rir] theorem envOf_zero (a : V) (l : List V) : envOf (a :: l) 0 = a := rfl
@[rir] theorem envOf_succ (a : V) (l : List V) (n : Nat) : envOf (a :: l) (n + 1) = envOf l n := rfl
@[rir] theorem set_same (env : Env) (i : Nat) (v : V) : (env.set i v) i = v := if_pos rfl
@[rir] theorem set_other (env : Env) (i j : Nat) (v : V) (h : j ≠ i) : (env.set i v) j = env j := if_neg h

-- closed side conditions: distinct constructors, constructor names, variable numbers, constants
attribute [rir_proc] reduceCtorEq reduceIte String.reduceBEq Nat.reduceEqDiff Nat.reduceLeDiff
attribute [rir] ne_eq not_false_eq_true eq_self beq_iff_eq Bool.not_eq_true' beq_eq_false_iff_ne decide_eq_true_eq

/-! ### what `eval` applies to an evaluated operand (`cond`, `tryV`, `binop`, `castV`, `unop`, `prim1`, `prim2`): one equation
  per operand shape the translated bodies contain, and those that complete such a family. Their own equations would not do:
  the operand is a bound variable where `eval` applies them, and unfolding would expose their `match` before the operand is
  known. -/

@[rir] theorem cond_bool (b : Bool) (t e : Res V) : cond (.bool b) t e = if b then t else e := by
  cases b <;> rfl
/-- a Rust `if` whose condition evaluated to a decided proposition is the model's `if` on that proposition. Not in the set
    (`cond_bool` with `decide_eq_true_eq` does the same there): for a proof that closes the rest by `rfl`. -/
theorem cond_decide (c : Prop) [Decidable c] (t e : Res V) : cond (.bool (decide c)) t e = if c then t else e := by
  simp only [cond_bool, decide_eq_true_eq]
@[rir] theorem andAlso_bool (b : Bool) (r : Res V) : andAlso (.bool b) r = if b then r else .ok (.bool false) := by
  cases b <;> rfl
@[rir] theorem orElse_bool (b : Bool) (r : Res V) : orElse (.bool b) r = if b then .ok (.bool true) else r := by
  cases b <;> rfl
@[rir] theorem tryV_ok (v : V) (k : V → Res V) : tryV (.c1 "Ok" v) k = k v := rfl
@[rir] theorem tryV_some (v : V) (k : V → Res V) : tryV (.c1 "Some" v) k = k v := rfl
@[rir] theorem tryV_err (e : V) (k : V → Res V) : tryV (.c1 "Err" e) k = .ok (.c1 "Err" e) := rfl
@[rir] theorem tryV_none (k : V → Res V) : tryV (.c0 "None") k = .ok (.c0 "None") := rfl

/-! integer operators: the operand shapes fix the type (`unify`), the operator the arithmetic (`arith`) -/

theorem unify_int_int (t : Ty) (a b : Nat) : unify (.int t a) (.int t b) = some (some t, a, b) := by simp [unify]
theorem unify_int_lit (t : Ty) (a b : Nat) : unify (.int t a) (.lit b) = some (some t, a, b) := rfl
theorem unify_lit_int (t : Ty) (a b : Nat) : unify (.lit a) (.int t b) = some (some t, a, b) := rfl
theorem unify_lit_lit (a b : Nat) : unify (.lit a) (.lit b) = some (none, a, b) := rfl

/-- the operators that go through `unify` + `arith`. All arms are written out and the definition is reducible, so that
    `simp` discharges `op.isArith = true` for a concrete `op` by itself. -/
@[rir, reducible] def BinOp.isArith : BinOp → Bool
  | .shl | .shr | .land | .lor => false
  | .add | .sub | .mul | .div | .rem | .band | .bor | .bxor | .eq | .ne | .lt | .le | .gt | .ge => true

section
variable (p : Profile) (op : BinOp) (t : Ty) (a b : Nat)

theorem binop_of_unify {x y : V} {u : Option Ty} (h : op.isArith = true) (hu : unify x y = some (u, a, b)) :
    binop p op x y = arith p op u a b := by
  cases op <;> first | exact Bool.noConfusion h | simp only [binop, hu]
@[rir] theorem binop_int_int (h : op.isArith = true) : binop p op (.int t a) (.int t b) = arith p op (some t) a b :=
  binop_of_unify p op a b h (unify_int_int t a b)
@[rir] theorem binop_int_lit (h : op.isArith = true) : binop p op (.int t a) (.lit b) = arith p op (some t) a b :=
  binop_of_unify p op a b h (unify_int_lit t a b)

end

@[rir] theorem binop_shl_int_lit (p : Profile) (t : Ty) (a s : Nat) :
    binop p .shl (.int t a) (.lit s) =
      if t.bits ≤ s then (match p with | .dev => .panic | .release => .ok .stuck) else .ok (.int t ((a <<< s) % t.modulus)) :=
  rfl

@[rir] theorem binop_ne_c0 (p : Profile) (a b : String) : binop p .ne (.c0 a) (.c0 b) = .ok (.bool (!(a == b))) := rfl

-- applied to a known operator only: its own equations
attribute [rir] arith

/-- a typed machine result is the number, tagged; `bind_assoc` then moves the tag to where the number is used -/
@[rir] theorem mkInt_some (t : Ty) (r : Res Nat) : mkInt (some t) r = r >>= fun n => .ok (.int t n) := rfl
theorem mkInt_ok (t : Ty) (n : Nat) : mkInt (some t) (.ok n) = .ok (.int t n) := rfl
@[rir] theorem mkInt_ok_none (n : Nat) : mkInt none (.ok n) = .ok (.lit n) := rfl
@[rir] theorem mkInt_panic (t : Option Ty) : mkInt t .panic = .panic := rfl

/-! the width of a known type, for `arith`, the shifts and the casts -/

attribute [rir] Ty.bits
@[rir] theorem modulus_usize : Ty.usize.modulus = W64 := rfl
@[rir] theorem modulus_u64 : Ty.u64.modulus = W64 := rfl
@[rir] theorem modulus_u32 : Ty.u32.modulus = W32 := rfl
@[rir] theorem modulus_u16 : Ty.u16.modulus = 65536 := rfl
@[rir] theorem modulus_u8 : Ty.u8.modulus = 256 := rfl

@[rir] theorem castV_int (t ty : Ty) (a : Nat) : castV (.int t a) ty = .ok (.int ty (a % ty.modulus)) := rfl
@[rir] theorem castV_lit (ty : Ty) (a : Nat) : castV (.lit a) ty = .ok (.int ty (a % ty.modulus)) := rfl

@[rir] theorem unop_not_bool (b : Bool) : unop .not (.bool b) = .ok (.bool (!b)) := rfl
@[rir] theorem unop_not_int (t : Ty) (a : Nat) : unop .not (.int t a) = .ok (.int t (t.modulus - 1 - a)) := rfl

@[rir] theorem unwrap_some (v : V) : prim1 .unwrap (.c1 "Some" v) = .ok v := rfl
@[rir] theorem unwrap_ok (v : V) : prim1 .unwrap (.c1 "Ok" v) = .ok v := rfl
@[rir] theorem unwrap_none : prim1 .unwrap (.c0 "None") = .panic := rfl
@[rir] theorem unwrap_err (v : V) : prim1 .unwrap (.c1 "Err" v) = .panic := rfl
@[rir] theorem prim1_arg (n : String) (v : V) : prim1 .arg (.c1 n v) = .ok v := by
  unfold prim1; split <;> simp_all
@[rir] theorem prim1_fst (a b : V) : prim1 .fst (.pair a b) = .ok a := rfl
@[rir] theorem prim1_snd (a b : V) : prim1 .snd (.pair a b) = .ok b := rfl

@[rir] theorem okOr_some (v e : V) : prim2 .okOr (.c1 "Some" v) e = .ok (.c1 "Ok" v) := rfl
@[rir] theorem okOr_none (e : V) : prim2 .okOr (.c0 "None") e = .ok (.c1 "Err" e) := rfl
@[rir] theorem mapErr_ok (v c : V) : prim2 .mapErr (.c1 "Ok" v) c = .ok (.c1 "Ok" v) := rfl
@[rir] theorem mapErr_err (e : V) (c : String) : prim2 .mapErr (.c1 "Err" e) (.c0 c) = .ok (.c1 "Err" (.c1 c e)) := rfl
@[rir] theorem isC_c0 (a b : String) : prim2 .isC (.c0 a) (.c0 b) = .ok (.bool (a == b)) := rfl
@[rir] theorem isC_c1 (a b : String) (v : V) : prim2 .isC (.c1 a v) (.c0 b) = .ok (.bool (a == b)) := rfl

section
variable (t : Ty) (a b : Nat)

@[rir] theorem wrappingAdd_int : prim2 .wrappingAdd (.int t a) (.int t b) = .ok (.int t ((a + b) % t.modulus)) := by
  simp only [prim2, unify_int_int, intPrim]
@[rir] theorem wrappingSub_int : prim2 .wrappingSub (.int t a) (.int t b) = .ok (.int t ((a + t.modulus - b) % t.modulus)) := by
  simp only [prim2, unify_int_int, intPrim]
@[rir] theorem saturatingSub_int : prim2 .saturatingSub (.int t a) (.int t b) = .ok (.int t (a - b)) := by
  simp only [prim2, unify_int_int, intPrim]
@[rir] theorem min_int_lit : prim2 .min (.int t a) (.lit b) = .ok (.int t (if a ≤ b then a else b)) := rfl

end

/-! ### the normal form: binds to the right, `if`s outermost, conditions with `≤` and `=`, unnegated -/

attribute [rir] Res.bind_ok Res.bind_panic Res.bind_oob Res.bind_ub Res.pure_eq bind_assoc Res.ite_bind
attribute [rir] ge_iff_le gt_iff_lt ite_not

@[rir] theorem ok_ite {α} (c : Prop) [Decidable c] (a b : α) : Res.ok (if c then a else b) = if c then Res.ok a else Res.ok b :=
  apply_ite Res.ok c a b
@[rir] theorem bool_ite (c : Prop) [Decidable c] (a b : Bool) : V.bool (if c then a else b) = if c then .bool a else .bool b :=
  apply_ite V.bool c a b
@[rir] theorem pair_ite (c : Prop) [Decidable c] (a b y : V) : V.pair (if c then a else b) y = if c then .pair a y else .pair b y :=
  apply_ite (V.pair · y) c a b
@[rir] theorem ite_lt_eq_ite_le {α} (a b : Nat) (x y : α) : (if a < b then x else y) = if b ≤ a then y else x :=
  ite_flip Nat.not_le.symm x y
@[rir] theorem ite_bool_false {α} (b : Bool) (x y : α) : (if b = false then x else y) = if b = true then y else x := by
  cases b <;> rfl
@[rir] theorem ite_and {α} (a b : Prop) [Decidable a] [Decidable b] (x y : α) :
    (if a ∧ b then x else y) = if a then (if b then x else y) else y := by
  by_cases a <;> by_cases b <;> simp [*]
@[rir] theorem ite_or {α} (a b : Prop) [Decidable a] [Decidable b] (x y : α) :
    (if a ∨ b then x else y) = if a then x else if b then x else y :=
  (ite_or_same x y).symm

/-! ### `match` on a variable, as the translator emits it: a chain of `if`s. The `rir` set evaluates such a chain by itself;
  these say what one arm means. -/

/-- one arm `k => t` of a `match` on an integer variable -/
theorem eval_arm_lit (p : Profile) (env : Env) (i k n : Nat) (ty : Ty) (t e : E) (h : env i = .int ty n) :
    eval p env (.ite (.bin .eq (.var i) (.lit k)) t e) = if n = k then eval p env t else eval p env e := by
  simp only [rir, h]

/-- one arm `lo..=hi => t` of a `match` on an integer variable -/
theorem eval_arm_range (p : Profile) (env : Env) (i lo hi n : Nat) (ty : Ty) (t e : E) (h : env i = .int ty n) :
    eval p env (.ite (.bin .land (.bin .ge (.var i) (.lit lo)) (.bin .le (.var i) (.lit hi))) t e) =
      if lo ≤ n ∧ n ≤ hi then eval p env t else eval p env e := by
  simp only [rir, h]

/-- one arm `Ctor => t` of a `match` on a constructor value -/
theorem eval_arm_c0 (p : Profile) (env : Env) (i : Nat) (name name' : String) (t e : E) (h : env i = .c0 name') :
    eval p env (.ite (.prim2 .isC (.var i) (.c0 name)) t e) = if name' = name then eval p env t else eval p env e := by
  simp only [rir, h]

theorem eval_arm_c1 (p : Profile) (env : Env) (i : Nat) (name name' : String) (x : V) (t e : E) (h : env i = .c1 name' x) :
    eval p env (.ite (.prim2 .isC (.var i) (.c0 name)) t e) = if name' = name then eval p env t else eval p env e := by
  simp only [rir, h]

end Mb2.Rir
