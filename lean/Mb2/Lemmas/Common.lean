import Mb2.Common
import Mb2.Lemmas.Arith
import Mb2.Lemmas.Res
namespace Mb2

theorem payloadLen_ge (p : Profile) (k : HK) (d : Nat) (h : d ≥ k.hsize) :
    payloadLen p k d = .ok (d - k.hsize) := by
  cases k <;> simp only [HK.hsize] at h <;> simp only [payloadLen, usub, HK.hsize, h, if_true]

/-- the two structure headers (boot information, Multiboot2 header): `payload_len` saturates, `total_size` is the
    declared word -/
def HK.IsStruct (k : HK) : Prop := k = .bi ∨ k = .hb

/-- a declaration below the header size: the asserting kinds panic, the saturating kinds (`HK.IsStruct`) say 0, and the
    unchecked subtraction of `DummyTestHeader` panics in dev and wraps in release - to a value that the header size wraps
    back to the declaration -/
theorem payloadLen_lt (p : Profile) (k : HK) (d : Nat) (h : d < k.hsize) :
    payloadLen p k d = .panic ∨ (k.IsStruct ∧ payloadLen p k d = .ok 0) ∨
    (∃ x, payloadLen p k d = .ok x ∧ x ≥ 2^63 ∧ uadd p W64 k.hsize x = .ok d) := by
  cases k <;> simp only [HK.hsize] at h
  · left; simp only [payloadLen]; rw [if_neg (by omega)]
  · right; left; exact ⟨.inl rfl, by simp only [payloadLen]; congr 1; omega⟩
  · right; left; exact ⟨.inr rfl, by simp only [payloadLen]; congr 1; omega⟩
  · left; simp only [payloadLen]; rw [if_neg (by omega)]
  · cases p
    · left; exact usub_dev_panic W64 d 8 (by omega)
    · right; right
      refine ⟨d + W64 - 8, ?_, by have := W64_eq; omega, ?_⟩
      · rw [← wrap_sub8 d h]; exact usub_wrap W64 d 8 (by omega)
      · show uadd .release W64 8 (d + W64 - 8) = .ok d
        rw [uadd_wrap W64 8 (d + W64 - 8) (by have := W64_eq; omega), wrap_add8 d h]

theorem HK.sizeOff_add_le (k : HK) : k.sizeOff + 4 ≤ k.hsize := by cases k <;> decide

/-- `ref_from_slice` as one decision sequence: the three checks of `BytesRef::try_from`, then the size guard of
    `ref_from_bytes` on `payload_len` (whose header read cannot fail once the slice holds a header) -/
theorem refFromSlice_eq (p : Profile) (k : HK) (addr : Nat) (bytes : Bytes) :
    refFromSlice p k addr bytes =
      if bytes.length < k.hsize then .ok (.error .shorterThanHeader)
      else if addr % 8 ≠ 0 then .ok (.error .wrongAlignment)
      else if bytes.length % 8 ≠ 0 then .ok (.error .missingPadding)
      else payloadLen p k (le32 bytes k.sizeOff) >>= fun pl =>
        if pl > bytes.length - k.hsize then .ok (.error .invalidReportedTotalSize) else .ok (.ok pl) := by
  unfold refFromSlice bytesRefTryFrom
  by_cases h : bytes.length < k.hsize
  · simp only [if_pos h]
  · have := k.sizeOff_add_le
    simp only [if_neg h, refFromBytes, rd32_ok (b := bytes) (o := k.sizeOff) (by omega), Res.bind_ok, Res.pure_eq]
    by_cases h2 : addr % 8 ≠ 0
    · simp only [if_pos h2]
    · by_cases h3 : bytes.length % 8 ≠ 0
      · simp only [if_neg h2, if_pos h3]
      · simp only [if_neg h2, if_neg h3]

theorem payloadLen_struct (p : Profile) {k : HK} (hk : k.IsStruct) (d : Nat) : payloadLen p k d = .ok (d - k.hsize) := by
  rcases hk with rfl | rfl <;> rfl

theorem totalSize_struct (p : Profile) {k : HK} (hk : k.IsStruct) (d : Nat) : totalSize p k d = .ok d := by
  rcases hk with rfl | rfl <;> rfl

/-- `ref_from_ptr` on a structure header behind an aligned pointer whose declared region (`d` bytes, and at least the
    `n` header bytes) is readable: what `load` of either crate starts with -/
theorem refFromPtr_struct (p : Profile) {k : HK} (hk : k.IsStruct) (mem : Bytes) {d n : Nat}
    (hd : le32 mem k.sizeOff = d) (hn : k.hsize = n) (hh : n ≤ mem.length) (hle : d ≤ mem.length) :
    refFromPtr p k 0 mem =
      if d < n then .ok (.error .shorterThanHeader)
      else if d % 8 ≠ 0 then .ok (.error .missingPadding)
      else .ok (.ok (d, d - n)) := by
  have hso := k.sizeOff_add_le
  unfold refFromPtr
  rw [rd32_ok (by omega), Res.bind_ok, totalSize_struct p hk, Res.bind_ok, hd, if_neg (by omega), refFromSlice_eq,
    List.length_take, Nat.min_eq_left hle, hn]
  by_cases h1 : d < n
  · rw [if_pos h1, if_pos h1]; rfl
  · rw [if_neg h1, if_neg h1, if_neg (by omega)]
    by_cases h2 : d % 8 ≠ 0
    · rw [if_pos h2, if_pos h2]; rfl
    · rw [if_neg h2, if_neg h2, payloadLen_struct p hk, Res.bind_ok, le32_take _ _ _ (by omega), hd, hn,
        if_neg (by omega)]; rfl

end Mb2
