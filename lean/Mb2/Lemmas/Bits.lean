import Mb2.Basic
namespace Mb2

/-- masking a 64-bit word with `!7`: the mask is `2^3 * (2^61 - 1)`, so the quotient by 8 passes unchanged (it is below
    `2^61`) and the remainder is cleared -/
theorem and_not7_nat (s : Nat) (hs : s < W64) : s &&& (W64 - 1 - 7) = roundDown8 s := by
  have hq : (s &&& (W64 - 1 - 7)) / 2 ^ 3 = s / 8 := by
    rw [Nat.and_div_two_pow]
    show s / 8 &&& 2 ^ 61 - 1 = s / 8
    rw [Nat.and_two_pow_sub_one_eq_mod, Nat.mod_eq_of_lt (by rw [W64_eq] at hs; omega)]
  have hr : (s &&& (W64 - 1 - 7)) % 2 ^ 3 = 0 := by
    rw [Nat.and_mod_two_pow]; exact Nat.and_zero _
  unfold roundDown8
  omega

/-- the code's `(n + 7) & !7` on 64-bit words equals rounding up to a multiple of 8 whenever `n + 7` does not wrap -/
theorem incAlignU64_toNat (n : UInt64) (h : n.toNat < 2^64 - 7) :
    (incAlignU64 n).toNat = roundUp8 n.toNat := by
  have h7 : n.toNat + (7 : UInt64).toNat < 2 ^ 64 := by show n.toNat + 7 < _; omega
  unfold incAlignU64
  rw [UInt64.toNat_and, UInt64.toNat_not, UInt64.toNat_add, Nat.mod_eq_of_lt h7]
  exact and_not7_nat _ h7

end Mb2
