/-
  `TagIter::next`: from the line-by-line model to one step of the specification's walk.
  `tagIterNext` = two header reads, `payload_len`, the offset arithmetic, `ref_from_slice` on the sub-slice. `payload_len`
  panics or returns a length that the header size adds back to the declared size (`payloadLen_iter`); on an aligned position
  the arithmetic then comes to `off + roundUp8 size` (`iter_arith`), and `ref_from_slice` on `[off, off + roundUp8 size)`
  returns the payload length again or stops a wrapped one (`tagIterNext_eq`).
-/
import Mb2.Lemmas.Arith
import Mb2.Lemmas.Common
namespace Mb2

/-- The offset arithmetic of `TagIter::next`, with whatever follows it as `f`: on an aligned position, with header plus
    payload adding up to `l` (wrapped or not) and no overflow near, the sub-slice ends and the iterator continues at
    `off + roundUp8 l`. -/
theorem iter_arith {β} (p : Profile) (hs pl l off len : Nat) (hl : uadd p W64 hs pl = .ok l) (ho : off % 8 = 0)
    (hb : off + l + 14 < W64) (f : Nat → Nat → Res β) :
    (do let l ← uadd p W64 hs pl
        let to ← uadd p W64 off l
        let to ← incAlign p to
        let delta ← usub p W64 to off
        let off' ← uadd p W64 off delta
        if off > to then .panic else if to > len then .panic else f to off') =
      if off + roundUp8 l > len then .panic else f (off + roundUp8 l) (off + roundUp8 l) := by
  have u := roundUp8_lt l
  have e : off + roundUp8 l - off = roundUp8 l := by omega
  simp only [hl, Res.bind_ok, uadd_ok p W64 off l (by omega), incAlign_eq p (off + l) (by omega),
    roundUp8_add8 off l ho, usub_ok p W64 (off + roundUp8 l) off (by omega), e,
    uadd_ok p W64 off (roundUp8 l) (by omega), if_neg (show ¬ off > off + roundUp8 l by omega)]

theorem HK.iter_layout {k : HK} (hk : k = .tag ∨ k = .ht ∨ k = .dummy) : k.hsize = 8 ∧ k.sizeOff = 4 := by
  rcases hk with h | h | h <;> subst h <;> exact ⟨rfl, rfl⟩

/-- `payload_len` of a tag header (the kinds an iterator exists for): a panic below 8, or a length that the header size
    adds back to the declared size - `size − 8`, or for `DummyTestHeader` in release below 8 a wrapped one -/
theorem payloadLen_iter (p : Profile) {k : HK} (hk : k = .tag ∨ k = .ht ∨ k = .dummy) (size : Nat) (hsz : size < W64) :
    (size < 8 ∧ payloadLen p k size = .panic) ∨
    ∃ pl, payloadLen p k size = .ok pl ∧ uadd p W64 8 pl = .ok size ∧ (8 ≤ size → pl = size - 8) ∧ (size < 8 → 2^63 ≤ pl) := by
  have hh := (HK.iter_layout hk).1
  by_cases hs : size < 8
  · rcases payloadLen_lt p k size (hh ▸ hs) with h | h | ⟨x, h, hx, hl⟩
    · exact .inl ⟨hs, h⟩
    · rcases hk with rfl | rfl | rfl <;> rcases h.1 with c | c <;> cases c
    · exact .inr ⟨x, h, hh ▸ hl, fun _ => by omega, fun _ => hx⟩
  · exact .inr ⟨size - 8, hh ▸ payloadLen_ge p k size (by omega),
      by rw [uadd_ok p W64 8 (size - 8) (by omega)]; congr 1; omega, fun _ => rfl, fun _ => by omega⟩

/-- One step of the iterator on an aligned position is one step of the specification's walk, in both profiles. Below 8 the
    asserting kinds panic at `payload_len`; `DummyTestHeader` in release wraps there and wraps back at `size_of + payload_len`,
    walks on as if nothing had happened, and is stopped by `ref_from_slice` (an empty slice, or a payload that cannot fit). -/
theorem tagIterNext_eq (p : Profile) (k : HK) (hk : k = .tag ∨ k = .ht ∨ k = .dummy) (buf : Bytes) (off : Nat)
    (hb : buf.length % 8 = 0) (hlen : buf.length < 2^62) (ho : off % 8 = 0) (hle : off ≤ buf.length) :
    tagIterNext p k buf off =
      if off = buf.length then .ok none
      else
        let size := le32 buf (off+4)
        if size < 8 ∨ off + roundUp8 size > buf.length then .panic
        else .ok (some (⟨off, tagTyp k buf off, size, size - 8⟩, off + roundUp8 size)) := by
  obtain ⟨hh, hso⟩ := HK.iter_layout hk
  have hW := W64_eq
  unfold tagIterNext
  by_cases h1 : off = buf.length
  · rw [if_pos h1, if_pos h1]
  rw [if_neg h1, if_neg h1, if_neg (by omega), rd32_ok (by omega), rd32_ok (by omega)]
  simp only [Res.bind_ok, hh]
  have hsz := le32_lt buf (off + 4)
  generalize hsd : le32 buf (off + 4) = size at *
  have g := roundUp8_ge size
  have m := roundUp8_mod size
  rcases payloadLen_iter p hk size (by omega) with ⟨hs, h⟩ | ⟨pl, h, hl, hge, hlt⟩
  · rw [h, if_pos (Or.inl hs)]; rfl
  rw [h, Res.bind_ok, iter_arith p 8 pl size off _ hl ho (by omega)]
  -- after the arithmetic: `ref_from_slice` on `[off, off + roundUp8 size)`, whose `payload_len` is `pl` again
  by_cases hf : off + roundUp8 size > buf.length
  · rw [if_pos hf, if_pos (Or.inr hf)]
  rw [if_neg hf, show off + roundUp8 size - off = roundUp8 size by omega, refFromSlice_eq,
    slice_length buf off _ (by omega), hh, hso]
  by_cases h8 : roundUp8 size < 8
  · rw [if_pos h8, if_pos (Or.inl (by omega))]; rfl
  rw [if_neg h8, if_neg (by omega), if_neg (by omega), le32_slice buf off _ 4 (by omega), hsd, h, Res.bind_ok]
  by_cases hs : size < 8
  · rw [if_pos (by have := hlt hs; omega), if_pos (Or.inl hs)]; rfl
  · rw [hge (by omega), if_neg (by omega), if_neg (by omega)]; rfl

end Mb2
