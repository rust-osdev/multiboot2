/-
  The two simp sets of the development (an attribute cannot be used in the module that declares it).
-/
import Lean.Meta.Tactic.Simp.RegisterCommand

/-- symbolic evaluation of `Rir.eval` on a translated body over symbolic arguments, into the normal form that the model
    functions share (lemmas: `Lemmas/Rir.lean`) -/
register_simp_attr rir

/-- `Obs.NoFault` of a piece list built from the sweep's combinators, reduced to the outcomes and bounds it depends on
    (lemmas: `Lemmas/Obs.lean`) -/
register_simp_attr nofault
