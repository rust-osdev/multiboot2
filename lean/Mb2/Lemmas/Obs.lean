/-
  `Obs.NoFault` through the combinators the sweeps are built from. Each combinator has an exact condition: a rendered
  outcome is fault-free iff the outcome is `Safe`, a checked slice iff it lies inside its extent, a list iff its members
  are. `simp only [nofault]` turns `NoFault` of a sweep part into those conditions.
-/
import Mb2.HTags
import Mb2.Lemmas.Res
namespace Mb2
open Sweep C01

attribute [nofault] true_and and_true and_assoc

@[nofault] theorem noFault_nil : Obs.NoFault [] := nofun

@[nofault] theorem noFault_t (s : String) : Obs.NoFault (t s) := by
  intro x hx; cases List.mem_singleton.mp hx; exact ⟨nofun, nofun⟩

theorem not_noFault_oob : ¬ Obs.NoFault [.oob] := fun h => (h _ (List.mem_singleton_self _)).1 rfl
theorem not_noFault_ub : ¬ Obs.NoFault [.ub] := fun h => (h _ (List.mem_singleton_self _)).2 rfl

theorem noFault_append {a b : Obs} (ha : Obs.NoFault a) (hb : Obs.NoFault b) : Obs.NoFault (a ++ b) :=
  fun x hx => (List.mem_append.mp hx).elim (ha x) (hb x)

@[nofault] theorem noFault_append_iff {a b : Obs} : Obs.NoFault (a ++ b) ↔ Obs.NoFault a ∧ Obs.NoFault b :=
  ⟨fun h => ⟨fun x hx => h x (List.mem_append.mpr (Or.inl hx)), fun x hx => h x (List.mem_append.mpr (Or.inr hx))⟩,
   fun h => noFault_append h.1 h.2⟩

@[nofault] theorem noFault_flatten_map {α} (l : List α) (f : α → Obs) :
    Obs.NoFault (l.map f).flatten ↔ ∀ a ∈ l, Obs.NoFault (f a) := by
  simp only [Obs.NoFault, List.mem_flatten, List.mem_map]
  exact ⟨fun h a ha x hx => h x ⟨_, ⟨a, ha, rfl⟩, hx⟩, fun h x ⟨_, ⟨a, ha, e⟩, hx⟩ => h a ha x (e ▸ hx)⟩

@[nofault] theorem noFault_resO {α} (f : α → Obs) (r : Res α) :
    Obs.NoFault (resO f r) ↔ Safe r ∧ ∀ a, r = .ok a → Obs.NoFault (f a) := by
  cases r with
  | ok a => exact ⟨fun h => ⟨safe_ok a, fun _ e => Res.ok.inj e ▸ h⟩, fun h => h.2 a rfl⟩
  | panic => exact ⟨fun _ => ⟨safe_panic, nofun⟩, fun _ => noFault_t _⟩
  | oob => exact ⟨fun h => absurd h not_noFault_oob, fun h => absurd rfl h.1.1⟩
  | ub => exact ⟨fun h => absurd h not_noFault_ub, fun h => absurd rfl h.1.2⟩

@[nofault] theorem noFault_resS {α} (f : α → String) (r : Res α) : Obs.NoFault (resS f r) ↔ Safe r := by
  unfold resS; rw [noFault_resO]; exact and_iff_left fun _ _ => noFault_t _

@[nofault] theorem noFault_fld (name : String) (r : Res Nat) : Obs.NoFault (fld name r) ↔ Safe r := by
  unfold fld; simp only [nofault]

/-- not in the `nofault` set: a sweep part keeps `NoFault (fields …)` as one condition, which `TagView.noFault_fields`
    proves for a whole field table -/
theorem noFault_fields (T : Bytes) (fs : List (String × Nat × Nat)) :
    Obs.NoFault (fields T fs) ↔ ∀ f ∈ fs, Safe (rdW T f.2.1 f.2.2) := by
  unfold fields; simp only [nofault]

@[nofault] theorem noFault_colonJoin (l : List (Res Nat)) : Obs.NoFault (colonJoin l) ↔ ∀ r ∈ l, Safe r := by
  cases l with
  | nil => simp only [colonJoin, nofault, List.not_mem_nil, false_imp_iff, implies_true]
  | cons r rest => simp only [colonJoin, nofault, List.forall_mem_cons]

/-- the case distinction on the outcome of `get_tag` in `getter`, `fbGetterS` and `elfSectionsGetterS`: Lean compiled the
    three `match`es to this one function, so it is named here as it is named there -/
@[nofault] theorem noFault_viewMatch (g : Res (Option View)) (f : View → Obs) :
    Obs.NoFault (getter.match_1 (fun _ => Obs) g (fun _ => t "-") f (fun _ => t "P") (fun _ => [.oob]) fun _ => [.ub]) ↔
      Safe g ∧ ∀ v, g = .ok (some v) → Obs.NoFault (f v) := by
  cases g with
  | ok o =>
    cases o with
    | none => exact ⟨fun _ => ⟨safe_ok _, nofun⟩, fun _ => noFault_t _⟩
    | some v => exact ⟨fun h => ⟨safe_ok _, fun _ e => Option.some.inj (Res.ok.inj e) ▸ h⟩, fun h => h.2 v rfl⟩
  | panic => exact ⟨fun _ => ⟨safe_panic, nofun⟩, fun _ => noFault_t _⟩
  | oob => exact ⟨fun h => absurd h not_noFault_oob, fun h => absurd rfl h.1.1⟩
  | ub => exact ⟨fun h => absurd h not_noFault_ub, fun h => absurd rfl h.1.2⟩

@[nofault] theorem noFault_getter (name : String) (g : Res (Option View)) (body : View → Obs) :
    Obs.NoFault (getter name g body) ↔ Safe g ∧ ∀ v, g = .ok (some v) → Obs.NoFault (body v) := by
  unfold getter; simp only [nofault]

/-- the header crate's `hgetter` differs from `getter` in the printed offset only; its `match` was compiled to a function
    of its own, which is the same function -/
@[nofault] theorem noFault_hgetter (name : String) (g : Res (Option View)) (body : View → Obs) :
    Obs.NoFault (HSweep.hgetter name g body) ↔ Safe g ∧ ∀ v, g = .ok (some v) → Obs.NoFault (body v) := by
  unfold HSweep.hgetter
  rw [show @HSweep.hgetter.match_1 = @getter.match_1 from rfl]
  simp only [nofault]

@[nofault] theorem noFault_endS (e : End) : Obs.NoFault (endS e) ↔ (e = .done ∨ e = .bad) := by
  cases e <;> simp [endS, nofault, not_noFault_oob, not_noFault_ub]

@[nofault] theorem noFault_walkEndS (e : End) : Obs.NoFault (walkEndS e) ↔ (e = .done ∨ e = .bad) := by
  cases e <;> simp [walkEndS, nofault, not_noFault_oob, not_noFault_ub]

@[nofault] theorem noFault_strS (T : Bytes) (v : View) (fixed n : Nat) :
    Obs.NoFault (strS T v fixed n) ↔ fixed + n ≤ (declared T v).length := by
  unfold strS; rw [noFault_resS, safe_rdSlice_iff]

@[nofault] theorem noFault_utf8S (T : Bytes) (v : View) (o n : Nat) : Obs.NoFault (utf8S T v o n) ↔ o + n ≤ T.length := by
  unfold utf8S; rw [noFault_resS, safe_rdSlice_iff]

end Mb2
